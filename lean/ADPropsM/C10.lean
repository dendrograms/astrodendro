import ADProofsM.MomentProofs
/-!
# C10 — intensity-weighted moments are the mathematical moments

`ps : List Pt` is any finite set of pixels in any number of dimensions (positions rational, so
integer pixel coordinates and translated copies are covered); a NaN value is a pixel of weight 0.
The principal-axes part that lives in LAPACK (realness, orthonormality of eigenvectors) is a
contract checked numerically on every run; what is handed to the solver is proved symmetric and
positive semi-definite here, and the `argsort … [::-1]` bookkeeping is proved to order the
eigenvalues by decreasing variance.
-/
open Mom

/-- **C10 (zeroth moment is additive = it is the sum).** -/
theorem C10_mom0_sum (a b : List Pt) : mom0 (a ++ b) = mom0 a + mom0 b := P11.sumBy_append _ a b

/-- **C10 (first moment is the value-weighted mean).** -/
theorem C10_mom1_weighted_mean (ps : List Pt) (i : Nat) (h0 : mom0 ps ≠ 0) :
    mom1 ps i * mom0 ps = sumBy (fun p => coord p i * p.w) ps := by
  unfold mom1
  exact div_mul_cancel₀ _ h0

/-- **C10 (second moment is the value-weighted covariance).** -/
theorem C10_mom2_covariance (ps : List Pt) (i j : Nat) (h0 : mom0 ps ≠ 0) :
    mom2 ps i j = sumBy (fun p => p.w * coord p i * coord p j) ps / mom0 ps - mom1 ps i * mom1 ps j := by
  -- expand the product under the sum: `Σ xᵢ w / mom0` is `mom1` by definition, `Σ w / mom0` is 1
  calc mom2 ps i j
      = sumBy (fun p => p.w * coord p i * coord p j / mom0 ps
          - mom1 ps j * (coord p i * p.w / mom0 ps) - mom1 ps i * (coord p j * p.w / mom0 ps)
          + mom1 ps i * mom1 ps j * (p.w / mom0 ps)) ps := P11.sumBy_congr fun p _ => by ring
    _ = sumBy (fun p => p.w * coord p i * coord p j) ps / mom0 ps
          - mom1 ps j * mom1 ps i - mom1 ps i * mom1 ps j
          + mom1 ps i * mom1 ps j * (mom0 ps / mom0 ps) := by
        simp only [P11.sumBy_add, P11.sumBy_sub, P11.sumBy_mul_left, P11.sumBy_div_right]; rfl
    _ = _ := by rw [div_self h0]; ring

/-- **C10 (the second moment is symmetric).** -/
theorem C10_mom2_symm (ps : List Pt) (i j : Nat) : mom2 ps i j = mom2 ps j i := by
  unfold mom2
  exact P11.sumBy_congr fun p _ => mul_right_comm _ _ _

/-- **C10 (positive semi-definite).** For non-negative weights the quadratic form of the second
moment is non-negative in every direction: eigenvalues are ≥ 0, variances are ≥ 0. -/
theorem C10_mom2_psd (ps : List Pt) (nd : Nat) (w : List Rat) (hw : ∀ p ∈ ps, 0 ≤ p.w) (hpos : 0 < mom0 ps) :
    0 ≤ quad ps nd w := by
  rw [P11.quad_eq_sum_sq]
  exact P11.sumBy_nonneg fun p hp => mul_nonneg (P11.weight_nonneg hw hpos p hp) (sq_nonneg _)

/-- **C10 (direction: independent of length and sign).** -/
theorem C10_along_scale_invariant (ps : List Pt) (nd : Nat) (w : List Rat) (c : Rat) (hc : c ≠ 0) :
    mom2Along ps nd (w.map (c * ·)) = mom2Along ps nd w := P11.mom2Along_map_mul ps nd w c hc

/-- **C10 (direction along an axis = diagonal entry).** -/
theorem C10_along_basis (ps : List Pt) (nd i : Nat) (hi : i < nd) :
    mom2Along ps nd ((List.range nd).map fun j => if j = i then (1 : Rat) else 0) = mom2 ps i i :=
  P11.mom2Along_basis ps nd i hi

/-- **C10 (translation).** Translating all positions leaves the zeroth moment unchanged. -/
theorem C10_translate_mom0 (t : List Rat) (ps : List Pt) : mom0 (translate t ps) = mom0 ps := by
  unfold mom0 translate
  rw [P11.sumBy_map]

/-- **C10 (translating all positions shifts the first moment by the same vector).** -/
theorem C10_translate_mom1 (t : List Rat) (ps : List Pt) (nd i : Nat) (hlen : ∀ p ∈ ps, p.pos.length = nd)
    (hi : i < nd) (h0 : mom0 ps ≠ 0) : mom1 (translate t ps) i = mom1 ps i + t.getD i 0 := by
  unfold mom1
  rw [C10_translate_mom0,
    P11.sumBy_translate t ps nd hlen _ (fun p => coord p i * p.w + t.getD i 0 * p.w)]
  · rw [P11.sumBy_add, P11.sumBy_mul_left, add_div]
    exact congrArg _ (mul_div_cancel_right₀ _ h0)
  · intro p hp
    rw [P11.coord_translate t p i (hp ▸ hi), add_mul]

/-- **C10 (translating all positions leaves the second moments unchanged).** -/
theorem C10_translate_mom2 (t : List Rat) (ps : List Pt) (nd i j : Nat) (hlen : ∀ p ∈ ps, p.pos.length = nd)
    (hi : i < nd) (hj : j < nd) (h0 : mom0 ps ≠ 0) : mom2 (translate t ps) i j = mom2 ps i j := by
  unfold mom2
  rw [C10_translate_mom0, C10_translate_mom1 t ps nd i hlen hi h0, C10_translate_mom1 t ps nd j hlen hj h0]
  apply P11.sumBy_translate t ps nd hlen
  intro p hp
  rw [P11.coord_translate t p i (hp ▸ hi), P11.coord_translate t p j (hp ▸ hj),
    add_sub_add_right_eq_sub, add_sub_add_right_eq_sub]

/-- **C10 (eigenvalue bookkeeping).** Sorting by decreasing value yields a non-increasing
permutation of the eigenvalues. -/
theorem C10_order_desc (l : List Rat) : (P11.sortDesc l).Pairwise (· ≥ ·) ∧ (P11.sortDesc l).Perm l :=
  ⟨P11.sortDesc_sorted l, P11.sortDesc_perm l⟩

-- non-vacuity: three weighted pixels with positive total weight
example : mom0 [⟨[0, 0], 1⟩, ⟨[0, 1], 2⟩, ⟨[1, 1], 1⟩] ≠ 0 := by decide +kernel
