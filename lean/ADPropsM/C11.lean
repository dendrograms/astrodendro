import ADProofsM.PPVProofs
/-!
# C11 — PP / PPV statistics follow their definitions and axis conventions

Square roots, `atan2` and the eigen-solver are outside the model.  Sigmas are represented by
their squares through the solver-free invariants of the sky-plane covariance block
`[[a, b], [b, c]]`: `major² + minor² = dx²·(a + c)`, `major²·minor² = dx⁴·(a c − b²)`
(`radius⁴`); the correspondence check compares these (and `v_rms²`, centroids, `area_exact`)
with the implementation's floats and checks the position angle numerically.
-/
open Mom

/-- **C11 (the velocity axis is a convention).** Declaring another axis the velocity axis, with
the data transposed accordingly, gives the same sigmas (sum and product of squares), `v_rms²`,
centroids and exact area.  (`h3` is not needed: `toV0` reads coordinates with `getD`, so the
statement holds for points of any dimension.) -/
theorem C11_vaxis_invariant (ps : List Pt) (vaxis : Nat) (hv : vaxis ≤ 2) (h3 : ∀ p ∈ ps, p.pos.length = 3) :
    PPV.sigmaSqSum ps vaxis = PPV.sigmaSqSum (PPV.toV0 vaxis ps) 0 ∧
    PPV.sigmaSqProd ps vaxis = PPV.sigmaSqProd (PPV.toV0 vaxis ps) 0 ∧
    PPV.vrmsSq ps vaxis = PPV.vrmsSq (PPV.toV0 vaxis ps) 0 ∧
    PPV.xCen ps vaxis = PPV.xCen (PPV.toV0 vaxis ps) 0 ∧
    PPV.yCen ps vaxis = PPV.yCen (PPV.toV0 vaxis ps) 0 ∧
    PPV.vCen ps vaxis = PPV.vCen (PPV.toV0 vaxis ps) 0 ∧
    PPV.areaExact ps vaxis = PPV.areaExact (PPV.toV0 vaxis ps) 0 := by
  have _ := h3
  have m1 := fun k hk => P13.mom1_toV0 vaxis hv k hk ps
  have m2 := fun k l hk hl => P13.mom2_toV0 vaxis hv k l hk hl ps
  obtain ⟨hx, hy⟩ := P13.cen_eq ps vaxis hv
  have h0 : (0:Nat) ≤ 2 := by omega
  have h1 : (1:Nat) ≤ 2 := by omega
  have h2 : (2:Nat) ≤ 2 := by omega
  -- on the right `vaxis = 0`, so the sky axes are `1, 2`; `σ vaxis` sends `0, 1, 2` to the
  -- velocity axis and the two sky axes of the left side
  refine ⟨?_, ?_, (m2 0 0 h0 h0).symm, hx.trans (m1 2 h2).symm, hy.trans (m1 1 h1).symm,
    (m1 0 h0).symm, ?_⟩
  · show _ = mom2 _ 1 1 + mom2 _ 2 2
    rw [m2 1 1 h1 h1, m2 2 2 h2 h2]; rfl
  · show _ = mom2 _ 1 1 * mom2 _ 2 2 - mom2 _ 1 2 * mom2 _ 1 2
    rw [m2 1 1 h1 h1, m2 2 2 h2 h2, m2 1 2 h1 h2]; rfl
  · show _ = (PPV.dedup ((PPV.toV0 vaxis ps).map fun p => (coord p 1, coord p 2))).length
    rw [P13.toV0_eq, List.map_map]
    simp only [Function.comp_def, P13.coord_T vaxis hv 1 h1, P13.coord_T vaxis hv 2 h2]; rfl

/-- **C11 (sigmas are non-negative).** The sky-plane block is positive semi-definite: trace ≥ 0 and
determinant ≥ 0 (Cauchy–Schwarz), so both eigenvalues, real by `C11_eigenvalues_real`, are ≥ 0; and `v_rms² ≥ 0`. -/
theorem C11_sigma_sq_nonneg (ps : List Pt) (vaxis : Nat) (hw : ∀ p ∈ ps, 0 ≤ p.w) (hpos : 0 < mom0 ps) :
    0 ≤ PPV.sigmaSqSum ps vaxis ∧ 0 ≤ PPV.sigmaSqProd ps vaxis ∧ 0 ≤ PPV.vrmsSq ps vaxis := by
  have diag := fun i => P11.mom2_diag_nonneg ps i hw hpos
  have hdet := P13.cauchy_schwarz (fun p => p.w / mom0 ps)
    (fun p => coord p (PPV.skyAxes vaxis).1 - mom1 ps (PPV.skyAxes vaxis).1)
    (fun p => coord p (PPV.skyAxes vaxis).2 - mom1 ps (PPV.skyAxes vaxis).2) ps
    (P11.weight_nonneg hw hpos)
  exact ⟨add_nonneg (diag _) (diag _), sub_nonneg.mpr hdet, diag _⟩

/-- **C11 (the eigenvalues of a symmetric 2×2 matrix are real).** The discriminant of the characteristic
polynomial of `[[a, b], [b, c]]` is `(a − c)² + 4 b²`, for arbitrary entries: no function of the model occurs. -/
theorem C11_eigenvalues_real (a b c : Rat) : 0 ≤ (a + c) ^ 2 - 4 * (a * c - b * b) := by
  have : (a + c)^2 - 4 * (a*c - b*b) = (a - c)^2 + 4 * (b * b) := by ring
  rw [this]
  exact add_nonneg (sq_nonneg _) (mul_nonneg (by norm_num) (mul_self_nonneg b))

/-- **C11 (re-embedding of the sky axes).** The repaired code puts a zero component at the
velocity axis and keeps the sky components in order. -/
theorem C11_embed (vaxis : Nat) (hv : vaxis ≤ 2) (a : Rat × Rat) :
    (PPV.embed vaxis a).getD vaxis 1 = 0 ∧ (PPV.embed vaxis a).length = 3 ∧
      (PPV.embed vaxis a).eraseIdx vaxis = [a.1, a.2] := by
  match vaxis with
  | 0 | 1 | 2 => exact ⟨rfl, rfl, rfl⟩

/-- **C11 (the code before the repair re-embedded wrongly for `vaxis = 1`).** -/
theorem C11_embed_old_witness : ∃ a : Rat × Rat, PPV.embedOld 1 a ≠ PPV.embed 1 a :=
  ⟨(0, 0), by decide +kernel⟩

/-- **C11 (v_rms is the dispersion along the velocity axis)** — a diagonal entry of the second
moment, i.e. the second moment along the unit vector of that axis. -/
theorem C11_vrms_def (ps : List Pt) (vaxis : Nat) (hv : vaxis < 3) :
    PPV.vrmsSq ps vaxis = mom2Along ps 3 ((List.range 3).map fun j => if j = vaxis then (1 : Rat) else 0) :=
  (P11.mom2Along_basis ps 3 vaxis hv).symm

/-- **C11 (linear scaling).** The model works in pixel units; the pixel scale `dx` enters only where a squared
sigma `s` is put in physical units, as `dx² · s`.  This is the arithmetic of that step (`c · dx` for `dx`
multiplies the result by `c²`); no function of the model occurs in it. -/
theorem C11_scale_linear (dx c s : Rat) : (c * dx) ^ 2 * s = c ^ 2 * (dx ^ 2 * s) := by ring
