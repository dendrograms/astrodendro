import ADProofsM.WrapProofs
/-!
# C12 — catalogs: the edge-wrap heuristic (analysis.py:649-654)

Before the statistics of a structure are computed, each of its index arrays is re-indexed across
the array edge if that makes it narrower (`Catalog.wrapAxis`); the theorems say when that happens.
Row assembly (one row per structure, sorted by `_idx`, each field the statistic of that structure
alone) is in `ADProps/C12.lean`.
-/

/-- **C12 (a structure narrower than half the axis is left alone)**, wherever it lies. -/
theorem C12_wrap_noop_narrow (n : Nat) (xs : List Rat) (h : Catalog.ptp xs < (n : Rat) / 2) :
    Catalog.wrapAxis n xs = xs := P13.wrapAxis_noop_of_ptp_lt n xs h

/-- **C12 (the heuristic leaves an index array alone or applies the candidate re-indexing to all of
it).** -/
theorem C12_wrap_cases (n : Nat) (xs : List Rat) :
    Catalog.wrapAxis n xs = xs ∨ Catalog.wrapAxis n xs = xs.map (fun x => if 2 * x < (n : Rat) then x + n else x) := by
  rw [P13.wrapAxis_def]
  split
  · exact Or.inr rfl
  · exact Or.inl rfl

/-- **C12 (the candidate re-indexes by whole periods).** Every index moves by `0` or by `n`; the candidate is
written out as in `C12_wrap_cases`, no function of the model occurs. -/
theorem C12_wrap_period (n : Nat) (x : Rat) :
    (if 2 * x < (n : Rat) then x + n else x) - x = 0 ∨ (if 2 * x < (n : Rat) then x + n else x) - x = n := by
  split
  · exact Or.inr (add_sub_cancel_left x _)
  · exact Or.inl (sub_self x)

/-- **C12 (the heuristic never widens a structure).** -/
theorem C12_wrap_never_wider (n : Nat) (xs : List Rat) : Catalog.ptp (Catalog.wrapAxis n xs) ≤ Catalog.ptp xs := by
  rw [P13.wrapAxis_def]
  split
  · next h => exact le_of_lt h
  · exact le_refl _

/-- **C12 (a structure straddling the edge whose wrapped extent is smaller is unwrapped).** With
C10's translation theorems the shape statistics then equal those of the un-wrapped structure and
the centroid moves by the same whole period. -/
theorem C12_wrap_unwraps (n : Nat) (xs : List Rat) (hr : ∀ x ∈ xs, 0 ≤ x ∧ x < n)
    (hL : xs.filter (fun x => decide (2 * x < (n : Rat))) ≠ [])
    (hH : xs.filter (fun x => decide (¬ 2 * x < (n : Rat))) ≠ [])
    (hc : (Catalog.maxQ (xs.filter (fun x => decide (2 * x < (n : Rat)))) + n)
            - Catalog.minQ (xs.filter (fun x => decide (¬ 2 * x < (n : Rat)))) < Catalog.ptp xs) :
    Catalog.wrapAxis n xs = xs.map (fun x => if 2 * x < (n : Rat) then x + n else x) := by
  refine (P13.wrapAxis_def n xs).trans (if_pos (lt_of_le_of_lt ?_ hc))
  obtain ⟨hM, hMle⟩ := P13.maxQ_spec hL
  obtain ⟨hm, hmle⟩ := P13.minQ_spec hH
  simp only [List.mem_filter, decide_eq_true_eq, and_imp] at hM hm hMle hmle
  -- the candidate's largest member is at most `max L + n`, its smallest at least `min H`
  refine P13.ptp_le (List.ne_nil_of_mem (List.mem_map_of_mem hM.1)) fun a' ha' b' hb' => ?_
  obtain ⟨a, ha, rfl⟩ := List.mem_map.mp ha'
  obtain ⟨b, hb, rfl⟩ := List.mem_map.mp hb'
  refine sub_le_sub ?_ ?_
  · by_cases h : 2 * a < (n:Rat)
    · rw [P13.wrapF_low h]; exact add_le_add_left (hMle a ha h) _
    · rw [P13.wrapF_high h]; exact (hr a ha).2.le.trans (le_add_of_nonneg_left (hr _ hM.1).1)
  · by_cases h : 2 * b < (n:Rat)
    · rw [P13.wrapF_low h]; exact (hr _ hm.1).2.le.trans (le_add_of_nonneg_left (hr b hb).1)
    · rw [P13.wrapF_high h]; exact hmle b hb h

/-- **C12 (a structure on one side of the middle of the axis is never touched).** `hne` is not needed. -/
theorem C12_wrap_noop_one_side (n : Nat) (xs : List Rat) (hne : xs ≠ []) :
    ((∀ x ∈ xs, 2 * x < (n : Rat)) → Catalog.wrapAxis n xs = xs) ∧
    ((∀ x ∈ xs, ¬ 2 * x < (n : Rat)) → Catalog.wrapAxis n xs = xs) :=
  have _ := hne
  ⟨fun h => P13.wrapAxis_noop n xs fun _ _ u hu _ h2 => absurd (h u hu) h2,
   fun h => P13.wrapAxis_noop n xs fun l hl _ _ h1 _ => absurd h1 (h l hl)⟩

/-- **C12 (data without wrap-around are never altered).** If the coordinates a structure occupies
along an axis form an interval of `[0, n)` — the case for the projection of a connected structure on a
non-periodic axis (`C12_interval_of_unit_steps`) — the heuristic leaves the index array as it is.  (The binder
of the cast is annotated `(x : Nat)`: without it Lean elaborates `fun x => (x : Rat)` with `x : Rat` and then
tries to coerce the list `xs`.) -/
theorem C12_wrap_noop_of_interval (n : Nat) (xs : List Nat) (hne : xs ≠ []) (hr : ∀ x ∈ xs, x < n)
    (hi : P29.IsInterval xs) :
    Catalog.wrapAxis n (xs.map (fun (x : Nat) => (x : Rat))) = xs.map (fun (x : Nat) => (x : Rat)) := by
  refine P13.wrapAxis_noop n _ fun l hl u hu h1 h2 => ?_
  obtain ⟨a, ha, rfl⟩ := List.mem_map.mp hl
  obtain ⟨b, hb, rfl⟩ := List.mem_map.mp hu
  -- two neighbours `m`, `m + 1` on either side of the middle are `n - 1` apart across the edge
  have hab : a < b := Nat.cast_lt.mp (lt_of_mul_lt_mul_left (h1.trans_le (not_lt.mp h2)) zero_le_two)
  obtain ⟨m, ham, hmb, hm, hm'⟩ := P29.crossing (P := fun m : Nat => 2 * (m : Rat) < n) hab.le h1 h2
  refine ⟨m, List.mem_map_of_mem (hi a ha b hb m ham (Nat.le_of_succ_le hmb)),
    (m + 1 : Nat), List.mem_map_of_mem (hi a ha b hb (m + 1) (Nat.le_succ_of_le ham) hmb), hm, hm', ?_⟩
  rw [Nat.cast_succ, add_sub_add_left_eq_sub]
  exact P29.ptp_le_of_range n xs hne hr

/-- **C12 (coordinates that move by at most one per step form an interval).** -/
theorem C12_interval_of_unit_steps (xs : List Nat) (h : ∀ a ∈ xs, ∀ b ∈ xs, a < b → a + 1 ∈ xs) :
    P29.IsInterval xs := P29.isInterval_of_succ_closed xs h
