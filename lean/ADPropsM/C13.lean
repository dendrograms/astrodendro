import ADProofsM.FluxProofs
/-!
# C13 — flux conversion is linear, unit-consistent and physically correct

`K : Consts` (speed of light, Boltzmann constant, π, ln 2, the Jansky) and the metadata `m` are
arbitrary: the algebraic laws hold for all their values.
-/

/-- **C13 (additive over any split of the pixels).** -/
theorem C13_additive (K : Consts) (fam : Family) (m : FMeta) (xs ys : List Rat) (scale outScale : Rat) :
    Flux.total K fam m (xs ++ ys) scale outScale = Flux.total K fam m xs scale outScale + Flux.total K fam m ys scale outScale := by
  rw [P13.total_eq, P13.total_eq, P13.total_eq, List.sum_append]
  ring

/-- **C13 (proportional to the input values).** -/
theorem C13_linear (K : Consts) (fam : Family) (m : FMeta) (a : Rat) (xs : List Rat) (scale outScale : Rat) :
    Flux.total K fam m (xs.map (a * ·)) scale outScale = a * Flux.total K fam m xs scale outScale := by
  rw [P13.total_eq, P13.total_eq, List.sum_map_mul_left, List.map_id']
  ring

/-- **C13 (independent of the unit in which equal physical inputs are expressed).** -/
theorem C13_unit_invariant (K : Consts) (fam : Family) (m : FMeta) (k : Rat) (hk : k ≠ 0) (xs : List Rat)
    (scale outScale : Rat) :
    Flux.total K fam m (xs.map (· / k)) (scale * k) outScale = Flux.total K fam m xs scale outScale := by
  have h : (xs.map (· / k)).sum * (scale * k) = xs.sum * scale := by
    simp only [div_eq_mul_inv, List.sum_map_mul_right, List.map_id']
    rw [mul_comm scale k, ← mul_assoc, inv_mul_cancel_right₀ hk]
  rw [P13.total_eq, P13.total_eq, h]

/-- **C13 (expressed in the requested output unit).** `ho`, `hk` are not needed: division by 0 is 0
on both sides. -/
theorem C13_output_unit (K : Consts) (fam : Family) (m : FMeta) (xs : List Rat) (scale o k : Rat) (ho : o ≠ 0) (hk : k ≠ 0) :
    Flux.total K fam m xs scale (o * k) = Flux.total K fam m xs scale o / k := by
  have _ := ho; have _ := hk
  unfold Flux.total
  rw [div_mul_eq_div_div]

/-- **C13 (brightness temperature: Rayleigh–Jeans).** `2 k / λ²` times the pixel solid angle; the model's `.temp`
factor mentions no beam. -/
theorem C13_temp_factor (K : Consts) (m : FMeta) (hc : K.c ≠ 0) (hl : m.lam ≠ 0) :
    Flux.factor K m .temp = 2 * K.kB / (m.lam * m.lam) * (m.pix * m.pix) / K.jy := by
  simp only [Flux.factor]
  congr 2
  field_simp

/-- **C13 (error table).** A number is produced iff the input family is supported, every item it
requires is present with the right dimension, and the output unit is a flux density. -/
theorem C13_ok_iff (input : Flux.Dim) (md : Flux.MetaDims) (output : Flux.Dim) :
    Flux.outcome input md output = .ok ↔
      output = .fnu ∧
      ( input = .fnu
      ∨ (input = .flambda ∧ md.wavelength = some .length)
      ∨ (input = .surf ∧ md.spatial = some .angle)
      ∨ (input = .perBeam ∧ md.spatial = some .angle ∧ md.bmaj = some .angle ∧ md.bmin = some .angle)
      ∨ (input = .temp ∧ md.spatial = some .angle ∧ md.bmaj = some .angle ∧ md.bmin = some .angle ∧
          (md.wavelength = some .length ∨ md.wavelength = some .freq)) ) := by
  rw [Flux.outcome_ok_iff, Flux.metaCheck_eq_none]

/-- **C13 (error table: an input unit outside the five families is reported as unsupported)**,
whatever the metadata and the output unit. -/
theorem C13_unsupported (input : Flux.Dim) (md : Flux.MetaDims) (output : Flux.Dim)
    (h : input ≠ .fnu ∧ input ≠ .flambda ∧ input ≠ .surf ∧ input ≠ .perBeam ∧ input ≠ .temp) :
    Flux.outcome input md output = .unsupported := by
  obtain ⟨h1, h2, h3, h4, h5⟩ := h
  cases input
  case angle | length | freq | other => rfl
  all_goals contradiction
