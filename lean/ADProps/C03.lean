import ADProofs
/-!
# C03 — each structure is a connected component of a superlevel set
-/
open Tree

/-- symmetric adjacency, for all `x y` (hypothesis).  `C17_grid_symmetric` proves the implication for a grid adjacency
only from a pixel `x` of the grid. -/
def SymmAdj (E : Env) : Prop := ∀ x y, y ∈ E.nbrs x → x ∈ E.nbrs y

/-- non-increasing processing order (checked on every implementation trace) -/
def SortedDesc (E : Env) (order : List Nat) : Prop := order.Pairwise (fun a b => E.val b ≤ E.val a)

/-- **C03 (every structure is connected).** After processing any sequence of pixels with any
criteria (ties allowed), every structure — root or not — together with its substructures is
connected under the adjacency in use. -/
theorem C03_all_connected (E : Env) (hsym : SymmAdj E) (order : List Nat) :
    ∀ t ∈ preL (run E order), PixConn E t := ContourP.run_all_connected E hsym order

/-- **C03 (roots are closed).** No pixel of one parentless structure is adjacent to a pixel of
another: with connectedness and C01's partition, the parentless structures are exactly the
connected components of the processed (above-threshold) set. -/
theorem C03_roots_closed (E : Env) (hsym : SymmAdj E) (order : List Nat) : Closed E (run E order) :=
  run_closed E hsym order

/-- **C03 (contour).** For every structure that has a parent, every above-threshold (= processed)
pixel adjacent to its region from outside is no brighter than every pixel of the region.  (`hnd` is not needed.) -/
theorem C03_contour (E : Env) (hsym : SymmAdj E) (order : List Nat) (hnd : order.Nodup)
    (hsorted : SortedDesc E order) :
    ∀ r ∈ run E order, ∀ s ∈ preL r.kids, ∀ a ∈ s.pixels, ∀ b ∈ E.nbrs a, b ∈ order → b ∉ s.pixels →
      ∀ x ∈ s.pixels, E.val b ≤ E.val x := by
  have _ := hnd
  intro r hr s hs a ha b hb hbo hbs x hx
  obtain ⟨P, hP, hsP⟩ := exists_parent hr hs
  obtain ⟨pre, suf, ho, hsr, _⟩ := ContourP.run_child_hist E order P hP s hsP
  unfold SortedDesc at hsorted
  rw [ho] at hbo hsorted
  rcases List.mem_append.mp hbo with hbp | hbp
  · -- an earlier neighbour lies in another root of that time: impossible, roots are closed
    obtain ⟨u, hu, hbu⟩ := mem_pixelsL.mp ((mem_run_pixels E pre b).mpr hbp)
    exact absurd hb (run_closed E hsym pre s hsr u hu (fun e => hbs (e ▸ hbu)) a ha b hbu)
  · exact (List.pairwise_append.mp hsorted).2.2 x (pixels_mem_order hsr hx) b hbp

/-- **C03 (no pruning ⇒ branch pixels lie below the substructures).**  (`hnd` is not needed.) -/
theorem C03_branch_own_le_sub (E : Env) (order : List Nat) (hnd : order.Nodup) (hsorted : SortedDesc E order)
    (hnoprune : ∀ t p v, E.indep t p v = true) :
    ∀ t ∈ preL (run E order), ∀ a ∈ t.own, ∀ b ∈ pixelsL t.kids, E.val a ≤ E.val b :=
  have _ := hnd
  run_prefix_induction E order
    (fun _ roots => ∀ t ∈ preL roots, ∀ a ∈ t.own, ∀ b ∈ pixelsL t.kids, E.val a ≤ E.val b)
    (by intro t ht; cases ht) fun pre p suf ho ih =>
      ContourP.step_own_le_sub E hnoprune _ p pre (mem_run_pixels E pre) (sorted_at ho hsorted) ih

/-- **C03 (trunk structures are exactly the connected components).** Two above-threshold pixels lie
in the same parentless structure iff they are connected through above-threshold pixels.  (`hnd` and `hq` are not
needed.) -/
theorem C03_trunk_eq_components (E : Env) (hsym : SymmAdj E) (order : List Nat) (hnd : order.Nodup)
    (p q : Nat) (hp : p ∈ order) (hq : q ∈ order) :
    (∃ t ∈ run E order, p ∈ t.pixels ∧ q ∈ t.pixels) ↔ Conn E.nbrs (fun x => x ∈ order) p q :=
  have _ := hnd
  have _ := hq
  ⟨fun ⟨_, ht, hpt, hqt⟩ => (ContourP.root_eq_component E hsym order ht hpt q).mp hqt, fun hc =>
    have ⟨t, ht, hpt⟩ := mem_pixelsL.mp ((mem_run_pixels E order p).mpr hp)
    ⟨t, ht, hpt, (ContourP.root_eq_component E hsym order ht hpt q).mpr hc⟩⟩

/-- **C03 (for the dendrogram that `compute` returns)**: re-labelling and the trunk step do not
change regions, so every structure of the result is connected. -/
theorem C03_compute_all_connected (E : Env) (hsym : SymmAdj E) (order : List Nat) :
    ∀ t ∈ preL (compute E order), PixConn E t := by
  intro t ht
  obtain ⟨s, hs, rfl⟩ := P30.mem_preL_compute ht
  unfold PixConn
  rw [(P9.pixels_mapIds _).1 s]
  exact ContourP.run_all_connected E hsym order s hs

-- non-vacuity of the hypotheses on the order: that of the 6-pixel row is duplicate-free and sorted
example : let E := envOf (fun p => [1, 10, 5, 9, 2, 8][p]!) (Grid.nbrs [6] []) []
    [1, 3, 5, 2, 4, 0].Nodup ∧ sortedDesc E.val [1, 3, 5, 2, 4, 0] = true := by decide +kernel
