import ADProofs
/-!
# C15 — compute is a pure, deterministic function of values and parameters

In the model this is definitional: `compute E order` is a function of the environment (values,
adjacency, the two criteria tests) and the order.  That the implementation depends on nothing else is
what the correspondence check establishes (dtype / layout / verbose / history variants must all
produce the model's answer).  One piece of arithmetic *is* logic: the significance test must not
depend on the width of the input dtype.
-/

/-- **C15 (the significance test is width-free).** The repaired test uses the exact difference. -/
theorem C15_signif_width_free (vmax v d : Int) : signifNew vmax v d = true ↔ d ≤ vmax - v :=
  by simp [signifNew]

/-- **C15 (old code, representable difference).** Taking the difference in the array's dtype gives the same
decision whenever the difference is representable in that dtype. -/
theorem C15_signif_old_eq_of_inRange (bits : Nat) (signed : Bool) (vmax v d : Int) (hb : 0 < bits)
    (h : inRange bits signed (vmax - v) = true) : signifOld bits signed vmax v d = signifNew vmax v d :=
  by rw [signifOld, signifNew, P9.wrap_id bits signed (vmax - v) hb h]

/-- **C15 (old code, witness of the repaired defect).** Where the difference is not representable the decisions can
differ: in `int8`, `100 − (−120)` wraps to `−36`. -/
theorem C15_signif_old_witness : signifOld 8 true 100 (-120) 150 ≠ signifNew 100 (-120) 150 :=
  by decide

/-- **C15 (determinism for distinct values).** That the same environment and order give the same forest needs no
proof (`compute` is a function).  Proved here: where no two processed values are equal the admissible order is
determined by the values (as in `C04_unique_of_distinct`), so the result is the same for any two admissible orders of
the same pixels. -/
theorem C15_deterministic (E : Env) (o1 o2 : List Nat)
    (h1 : o1.Pairwise (fun a b => E.val b < E.val a)) (h2 : o2.Pairwise (fun a b => E.val b < E.val a))
    (hperm : o1.Perm o2) : compute E o1 = compute E o2 := by
  rw [order_unique_of_distinct E.val o1 o2 h1 h2 hperm]
