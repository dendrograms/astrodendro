import ADProofs
/-!
# C06 — structure accessors agree with the data and the label map

`P8.WF f n`: identifiers pairwise distinct, no pixel in two own lists, all pixels `< n`.  That it
holds of every real dendrogram is at the end of this file.
-/
open Tree

/-- **C06 (label map / structure_at).** The label of a pixel is the identifier of the unique
structure owning it. -/
theorem C06_label_iff (f : List Tree) (n : Nat) (h : P8.WF f n) (p i : Nat) :
    labelOf f p = some i ↔ ∃ t ∈ preL f, t.id = i ∧ p ∈ t.own := P8.labelOf_some_iff h.2.1
/-- A pixel is unlabelled iff it belongs to no structure. -/
theorem C06_unlabelled_iff (f : List Tree) (p : Nat) : labelOf f p = none ↔ p ∉ pixelsL f :=
  P8.labelOf_none_iff f p

/-- **C06 (indices, `subtree=False`).** The slice of the tree index for a structure holds
exactly the pixels labelled with it. -/
theorem C06_indices_own (f : List Tree) (n : Nat) (h : P8.WF f n) (t : Tree) (ht : t ∈ preL f) :
    (tiIndices (labelMap f n) f t false).Perm t.own := by
  obtain ⟨rest, e⟩ := P8.tiIndex_split (labelMap f n) f h.1 t ht
  unfold tiIndices
  simp only [Bool.false_eq_true, if_false]
  rw [e, pre_eq t, List.flatMap_cons, List.append_assoc, List.take_left]
  exact P8.binOf_perm h ht
/-- **C06 (indices, `subtree=True`).** The slice holds exactly the pixels labelled with it or a descendant. -/
theorem C06_indices_subtree (f : List Tree) (n : Nat) (h : P8.WF f n) (t : Tree) (ht : t ∈ preL f) :
    (tiIndices (labelMap f n) f t true).Perm t.pixels := by
  obtain ⟨rest, e⟩ := P8.tiIndex_split (labelMap f n) f h.1 t ht
  unfold tiIndices
  simp only [if_true]
  rw [e, (P8.tiSubCt_eq_length _).1 t, List.take_left]
  exact P8.bins_pre_perm f n h t ht

/-- **C06 (pixel counts).** The bottom-up accumulated subtree count is the size of the region. -/
theorem C06_npix_subtree (f : List Tree) (n : Nat) (h : P8.WF f n) (t : Tree) (ht : t ∈ preL f) :
    tiSubCt (labelMap f n) t = t.pixels.length := by
  rw [(P8.tiSubCt_eq_length _).1 t]; exact (P8.bins_pre_perm f n h t ht).length_eq

/-- **C06 (incremental maximum, `_add_pixel`).** The update `max(vmax, value)` gives the maximum over the own pixels
after the addition. -/
theorem C06_vmax_add (val : Nat → Int) (t : Tree) (p : Nat) (h : t.own ≠ []) :
    (t.addPixel p).vmax val = max (t.vmax val) (val p) := P8.vmax_addPixel val t p h
/-- The same for `vmin`. -/
theorem C06_vmin_add (val : Nat → Int) (t : Tree) (p : Nat) (h : t.own ≠ []) :
    (t.addPixel p).vmin val = min (t.vmin val) (val p) := P8.vmin_addPixel val t p h
/-- `_merge`: the larger of the two maxima is the maximum over the own pixels of the merged structure. -/
theorem C06_vmax_merge (val : Nat → Int) (t m : Tree) (ht : t.own ≠ []) (hm : m.own ≠ []) :
    (t.absorb m).vmax val = max (t.vmax val) (m.vmax val) := P8.vmax_absorb val t m ht hm
/-- The same for `vmin`. -/
theorem C06_vmin_merge (val : Nat → Int) (t m : Tree) (ht : t.own ≠ []) (hm : m.own ≠ []) :
    (t.absorb m).vmin val = min (t.vmin val) (m.vmin val) := P8.vmin_absorb val t m ht hm
/-- `vmax` is the largest value among the own pixels, and is attained. -/
theorem C06_vmax_is_max (val : Nat → Int) (t : Tree) (h : t.own ≠ []) :
    (∀ p ∈ t.own, val p ≤ t.vmax val) ∧ (∃ p ∈ t.own, val p = t.vmax val) :=
  ((vmax_eq_iff h).mp rfl).symm
/-- The same for `vmin`, the smallest. -/
theorem C06_vmin_is_min (val : Nat → Int) (t : Tree) (h : t.own ≠ []) :
    (∀ p ∈ t.own, t.vmin val ≤ val p) ∧ (∃ p ∈ t.own, val p = t.vmin val) :=
  ((vmin_eq_iff h).mp rfl).symm

/-- **C06 (peak, `subtree=False`).** `get_peak` returns an own pixel that carries the maximum over the own pixels. -/
theorem C06_peak_own (val : Nat → Int) (own : List Nat) (h : own ≠ []) :
    (peakOwn val own).1 ∈ own ∧ val (peakOwn val own).1 = (peakOwn val own).2 ∧
      ∀ p ∈ own, val p ≤ (peakOwn val own).2 := by
  obtain ⟨h2, h1⟩ := (maxL_eq_iff (d := 0) (l := own.map val) (by simpa using h)).mp rfl
  obtain ⟨q, hq, e⟩ := List.mem_map.mp h2
  simp only [peakOwn]
  rcases hf : own.find? (fun p => val p == maxL 0 (own.map val)) with _ | r
  · have := List.find?_eq_none.mp hf q hq
    simp [e] at this
  · simp only [Option.getD_some]
    refine ⟨List.mem_of_find?_eq_some hf, by simpa using List.find?_some hf, ?_⟩
    exact fun p hp => h1 _ (List.mem_map_of_mem hp)
/-- **C06 (peak, `subtree=True`).** The same for the region with its substructures. -/
theorem C06_peak_subtree (val : Nat → Int) (t : Tree) (h : P8.AllOwnNonempty t) :
    (peakSub val t).1 ∈ t.pixels ∧ val (peakSub val t).1 = (peakSub val t).2 ∧
      ∀ p ∈ t.pixels, val p ≤ (peakSub val t).2 := by
  induction t using Tree.ind with
  | h i o ks ih =>
    have ih := fun k hk => ih k hk fun s hs => h s (pre_subset_pre (kid_mem_pre hk) s hs)
    obtain ⟨o1, o2, o3⟩ := C06_peak_own val o (h _ (mem_pre_self _))
    simp only [peakSub, pixels, P8.peakSubL_eq_map, List.mem_append, or_imp, forall_and]
    rcases hf : firstMaxBy (fun (pr : Nat × Int) => pr.2) (ks.map (peakSub val)) with _ | c
    · cases ks with
      | nil => exact ⟨.inl o1, o2, o3, fun _ hp => nomatch hp⟩
      | cons k ks => cases hf
    · obtain ⟨c1, c2⟩ := P8.firstMaxBy_spec _ _ _ hf
      obtain ⟨k, hk, rfl⟩ := List.mem_map.mp c1
      obtain ⟨k1, k2, -⟩ := ih k hk
      -- the peak of `k` is the largest of the children's peaks, each the largest value of its region
      have hall : ∀ p ∈ pixelsL ks, val p ≤ (peakSub val k).2 := fun p hp =>
        have ⟨k', hk', hp'⟩ := mem_pixelsL.mp hp
        Int.le_trans ((ih k' hk').2.2 p hp') (c2 _ (List.mem_map_of_mem hk'))
      simp only
      split
      next hgt => exact ⟨.inl o1, o2, o3, fun p hp => Int.le_trans (hall p hp) (Int.le_of_lt hgt)⟩
      next hle =>
        exact ⟨.inr (mem_pixelsL.mpr ⟨k, hk, k1⟩), k2, fun p hp => Int.le_trans (o3 p hp) (Int.not_lt.mp hle), hall⟩

/-- **C06 (the hypotheses hold for every real dendrogram).** The forest returned by `compute` over
an array of `n` pixels is well formed. -/
theorem C06_compute_wf (E : Env) (order : List Nat) (hnd : order.Nodup) (n : Nat) (hn : ∀ p ∈ order, p < n) :
    P8.WF (compute E order) n := P30.compute_wf E order hnd n hn
/-- A prune keeps a forest well formed; so everything reachable from `compute` by prunes and loads is
(`C02_reachable_wellformed`). -/
theorem C06_prune_wf (ic : Tree → Tree → Bool) (io : Tree → Bool) (f : List Tree) (n : Nat) (h : P8.WF f n) :
    P8.WF (prune ic io f) n := P30.prune_wf ic io f n h

-- non-vacuity: a three-level forest over 6 pixels is well-formed
example : P8.WF [node 0 [4, 0] [node 2 [2] [node 1 [1] [], node 3 [3] []], node 4 [5] []]] 6 := by
  unfold P8.WF; decide +kernel
