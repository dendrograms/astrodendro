import ADProofs
/-!
# C04 — the hierarchy equals the documented brightest-to-faintest construction

The executable specification is `step` itself (clause table in `ADModel/Compute.lean`); the
theorems below state its rules outright, so that the model can be read against
docs/algorithm.rst, and prove that for distinct values the result is a function of data and
parameters alone.  The tie to the code is the correspondence check on own pixels and parent
relation under the recorded order.
-/
open Tree

/-- **C04 (no assigned neighbour ⇒ new leaf).** -/
theorem C04_new_leaf (E : Env) (roots : List Tree) (p : Nat) (h : ∀ t ∈ roots, touches E p t = false) :
    step E roots p = roots ++ [node p [p] []] := by
  have h1 : roots.filter (touches E p) = [] :=
    List.filter_eq_nil_iff.mpr fun t ht => by simp [h t ht]
  have h2 : roots.filter (fun t => !touches E p t) = roots :=
    List.filter_eq_self.mpr fun t ht => by simp [h t ht]
  unfold step; rw [h1, h2]; rfl

/-- **C04 (one adjacent structure ⇒ it gains the pixel).** -/
theorem C04_join_one (E : Env) (roots : List Tree) (p : Nat) (t : Tree) (h : roots.filter (touches E p) = [t]) :
    step E roots p = roots.filter (fun t => !touches E p t) ++ [t.addPixel p] := by
  unfold step; rw [h]; rfl

/-- **C04 (which structures are absorbed).** A structure is absorbed at a meeting iff it is a leaf
whose peak equals the meeting value or which fails the criteria at that value. -/
theorem C04_insignificant_iff (E : Env) (p : Nat) (t : Tree) :
    insig E p t = true ↔ t.kids = [] ∧ (t.vmax E.val = E.val p ∨ E.indep t p (E.val p) = false) := insig_iff E p t

/-- **C04 (several meet, ≥ 2 remain ⇒ new branch with exactly the remaining ones as children,
absorbing the others).** -/
theorem C04_branch (E : Env) (p : Nat) (a b : Tree) (rest : List Tree) (k1 k2 : Tree) (ks : List Tree)
    (hk : (a :: b :: rest).filter (fun t => !insig E p t) = k1 :: k2 :: ks) :
    joinAdj E p (a :: b :: rest) = ((a :: b :: rest).filter (insig E p)).foldl Tree.absorb (node p [p] (k1 :: k2 :: ks)) := by
  dsimp only [joinAdj]
  rw [hk]

/-- **C04 (several meet, one remains ⇒ it absorbs pixel and leaves).** -/
theorem C04_one_remains (E : Env) (p : Nat) (a b : Tree) (rest : List Tree) (t : Tree)
    (hk : (a :: b :: rest).filter (fun t => !insig E p t) = [t]) :
    joinAdj E p (a :: b :: rest) = ((a :: b :: rest).filter (insig E p)).foldl Tree.absorb (t.addPixel p) := by
  dsimp only [joinAdj]
  rw [hk]

/-- **C04 (several meet, none remains ⇒ the last one receives the pixel and absorbs the others).** -/
theorem C04_none_remains (E : Env) (p : Nat) (a b : Tree) (rest : List Tree)
    (hk : (a :: b :: rest).filter (fun t => !insig E p t) = []) :
    ∃ last others, (a :: b :: rest) = others ++ [last] ∧
      joinAdj E p (a :: b :: rest) = others.foldl Tree.absorb (last.addPixel p) := by
  have hm : (a :: b :: rest).filter (insig E p) = a :: b :: rest :=
    List.filter_eq_self.mpr fun t ht => by simpa using List.filter_eq_nil_iff.mp hk t ht
  rcases hr : (a :: b :: rest).reverse with _ | ⟨last, ro⟩
  · cases List.reverse_eq_nil_iff.mp hr
  · refine ⟨last, ro.reverse, List.reverse_eq_cons_iff.mp hr, ?_⟩
    dsimp only [joinAdj]
    rw [hk, hm, hr]

/-- **C04 (uniqueness).** Where no two processed values are equal, two admissible orders of the
same pixels coincide, hence the hierarchy is determined by data and parameters. -/
theorem C04_unique_of_distinct (E : Env) (o1 o2 : List Nat)
    (h1 : o1.Pairwise (fun a b => E.val b < E.val a)) (h2 : o2.Pairwise (fun a b => E.val b < E.val a))
    (hperm : o1.Perm o2) : run E o1 = run E o2 := by
  rw [order_unique_of_distinct E.val o1 o2 h1 h2 hperm]

/-- **C04 (`min_delta` at a meeting).** A structure passes iff its peak lies at least `d` above the meeting value. -/
theorem C04_minDelta_merge (val : Nat → Int) (d : Int) (t : Tree) (v : Int) :
    (Crit.minDelta d).atMerge val t v = true ↔ d ≤ t.vmax val - v := by simp [Crit.atMerge]
/-- `min_npix`: it passes iff it has at least `n` pixels, those of its substructures included. -/
theorem C04_minNpix (val : Nat → Int) (n : Nat) (t : Tree) (v : Int) :
    (Crit.minNpix n).atMerge val t v = true ↔ n ≤ t.pixels.length := by simp [Crit.atMerge]
/-- `all_true`: several criteria are passed iff each one is. -/
theorem C04_allTrue (val : Nat → Int) (cs : List Crit) (t : Tree) (p : Nat) (v : Int) :
    allMerge val cs t p v = true ↔ ∀ c ∈ cs, c.atMerge val t v = true := by simp [allMerge]
/-- The seeds criterion: a structure passes iff one of its pixels is a seed. -/
theorem C04_seeds_exact (val : Nat → Int) (ps : List Nat) (t : Tree) (v : Int) :
    (Crit.seeds ps).atMerge val t v = true ↔ ∃ p ∈ t.pixels, p ∈ ps := by simp [Crit.atMerge]

/-! The theorems of C01–C05 assume `order.Nodup`, `order.Pairwise (val b ≤ val a)` and that the
processed pixels are the pixels above the threshold.  The model driver evaluates the boolean
functions `nodupB`, `sortedDesc` and `sortNat order = kept` on the order recorded by the hook for
every case; these theorems say the boolean checks mean exactly the hypotheses. -/

theorem C04_sorted_check_sound (val : Nat → Int) (l : List Nat) :
    sortedDesc val l = true ↔ l.Pairwise (fun a b => val b ≤ val a) := by
  induction l with
  | nil => exact ⟨fun _ => .nil, fun _ => rfl⟩
  | cons a l ih =>
    cases l with
    | nil => exact ⟨fun _ => List.pairwise_singleton _ _, fun _ => rfl⟩
    | cons b rest =>
      rw [sortedDesc, Bool.and_eq_true, decide_eq_true_eq, ih, List.pairwise_cons (a := a), List.pairwise_cons,
        List.forall_mem_cons]
      -- the check compares neighbours only; `≤` is transitive
      exact ⟨fun ⟨hba, hb, hp⟩ => ⟨⟨hba, fun c hc => Int.le_trans (hb c hc) hba⟩, hb, hp⟩,
        fun ⟨⟨hba, _⟩, hb, hp⟩ => ⟨hba, hb, hp⟩⟩
theorem C04_nodup_check_sound (l : List Nat) : nodupB l = true ↔ l.Nodup := by
  induction l with
  | nil => simp [nodupB]
  | cons a rest ih => simp [nodupB, ih]
theorem C04_cover_check_sound (order kept : List Nat) (hk : kept.Pairwise (· < ·)) (hnd : order.Nodup) :
    sortNat order = kept ↔ (∀ p, p ∈ order ↔ p ∈ kept) := by
  have hperm := sortNat_isSort.perm order
  constructor
  · intro h p
    rw [← h]; exact hperm.mem_iff.symm
  · intro h
    -- both sides are strictly ascending lists with the same members
    exact List.eq_of_pairwise_of_mem_iff (sortNat_strict hnd) hk
      (fun _ _ => Nat.lt_asymm) fun p => hperm.mem_iff.trans (h p)
/-- non-increasing + pairwise distinct values ⇒ strictly decreasing: the hypothesis of `C04_unique_of_distinct` -/
theorem C04_strict_of_distinct (val : Nat → Int) (l : List Nat) (h : l.Pairwise (fun a b => val b ≤ val a))
    (hd : ∀ a ∈ l, ∀ b ∈ l, val a = val b → a = b) (hnd : l.Nodup) : l.Pairwise (fun a b => val b < val a) :=
  (h.and hnd).imp_of_mem fun {a b} ha hb h =>
    Int.lt_iff_le_and_ne.2 ⟨h.1, fun e => h.2 (hd a ha b hb e.symm)⟩

/-- **C04 (label mechanism = construction).** The forest produced through the label map (labels of the neighbours →
roots via `ancestor` → duplicates removed → sorted by idx → three-way case analysis) is the forest of the documented
construction `run`. -/
theorem C04_label_mechanism_refines (E : Env) (order : List Nat) (hnd : order.Nodup) :
    (runL E order).roots = run E order := by rw [P36.runL_eq E order hnd]
/-- At every step `adjacentL` finds exactly the roots `touches` finds, in the order (by idx) in which `step` hands
them to `joinAdj`. -/
theorem C04_adjacent_by_labels (E : Env) (pre : List Nat) (hnd : pre.Nodup) (p : Nat) :
    adjacentL E (runL E pre) p = sortById ((run E pre).filter (touches E p)) := by
  rw [P36.runL_eq E pre hnd, P36.adjacentL_eq E (run_ids_nodup E pre hnd) (run_pixels_nodup E pre hnd)]

/-- **C04 (`structures[a].ancestor` is the current root).** During `compute` the path-compressing, cached
`Structure.ancestor` is asked on every step while new branches are created above current roots and absorbed leaves are
dropped. For every such history (fresh leaves, branches over parentless live structures, removal of parentless childless
structures, ancestor queries in any interleaving) every answer is the root by the live links: a structure that has a
parent keeps it, so the cache is never stale (`P37.illegal_attach_stale_witness`: re-parenting after a query does make it
stale, which is what `prune` has to repair by resetting caches). -/
theorem C04_ancestor_is_root (ops : List P37.GOp) (hl : P37.LegalGrow {} ops) :
    (∀ pr ∈ P37.runGrow {} ops, pr.1 = pr.2 ∧ ∃ r, pr.1 = some r) ∧
    (∀ t ∈ P37.traceGrow {} ops, t.2.1 = t.2.2 ∧
      ∃ r ro, t.2.1 = some r ∧ r ∈ t.1.alive ∧ t.1.get r = some ro ∧ ro.parent = none) :=
  ⟨P37.grow_run_sound {} ops P37.empty_wf P37.empty_ancSound hl,
    P37.grow_trace_sound {} ops P37.empty_wf P37.empty_ancSound hl⟩

example : P37.LegalGrow {} P37.exHist := by decide +kernel

/-- **C04 (the objects `compute` builds are the forest of the construction).** `P42.runObj` performs, pixel by pixel,
the object operations of the loop (`Structure(coord, value)`, `_add_pixel`, `_merge` + `structures.pop`, `Structure(…,
children=adjacent)`) on the object heap of `ADModel/Cache.lean`. For every environment and duplicate-free order the
heap is well formed, cached ancestors stay proper ancestors, and its parentless live objects, read as trees, are exactly
`run E order`. -/
theorem C04_objects_refine_construction (E : Env) (order : List Nat) (hnd : order.Nodup) :
    P17.WF (P42.runObj E order) ∧ P37.AncSound (P42.runObj E order) ∧
    P35.absF (P42.runObj E order) (P42.runObj E order).size (P42.runO E order).roots = run E order ∧
    (P42.runO E order).roots.Nodup ∧ ∀ r, r ∈ (P42.runO E order).roots ↔ r ∈ P35.rootsOf (P42.runObj E order) :=
  by
  obtain ⟨h1, _, h3⟩ := P42.runO_spec E order hnd
  rw [P42.runObj_eq E order hnd]
  exact ⟨h1.wf, h1.anc, h3, h1.nodup, h1.roots⟩

/-- On the heap that these object operations leave after any prefix of the order, `Structure.ancestor` asked of any live
structure returns the current root, a parentless live object. No query has been asked on that heap before, so every
`_ancestor` cache is still empty there and the walk is a first, uncached one. The loop with the queries of every
iteration interleaved, where the caches fill up and have to stay right, is `P42.runOQ_spec`; for arbitrary legal
histories of link operations and queries it is `C04_ancestor_is_root`. -/
theorem C04_ancestor_sound_in_compute (E : Env) (order pre : List Nat) (hnd : order.Nodup) (hpre : pre <+: order)
    (i : Nat) (hi : i ∈ (P42.runObj E pre).alive) :
    ((P42.runObj E pre).ancestor (P42.runObj E pre).size i).2 = (P42.runObj E pre).specRoot (P42.runObj E pre).size i ∧
    P37.IsRootOf (P42.runObj E pre) ((P42.runObj E pre).ancestor (P42.runObj E pre).size i).2 :=
  by
  obtain ⟨w, hs, _⟩ := C04_objects_refine_construction E pre (hpre.sublist.nodup hnd)
  obtain ⟨h1, h2, _⟩ := P37.ancestor_grow (P42.runObj E pre) i w hs hi
  exact ⟨h1, h2⟩
