import ADProofs
/-!
# C16 — the hierarchy is invariant under renaming of pixels and order-preserving value maps

`P10.SimL σ f f'`: the forests `f` and `f'` are the same hierarchy up to the pixel renaming `σ`, ignoring identifiers,
the order of children and the order of own pixels.  The invariance theorems are about `run`, the forest the pixel loop
builds before `_make_trunk`: run 1 processes `order` in `E`; run 2 processes `order.map σ` in `E'`.  Axis permutations,
flips, padding, inserting a unit axis and cyclic shifts are renamings `σ` under which the grid adjacency corresponds
(`hadj`); `v ↦ a·v + b` (`a > 0`) and strictly increasing maps preserve the order of values (`hmono`).  For distinct
values the transformed run *is* the run on the mapped order (C04 uniqueness); for ties the theorem still applies to the
two recorded orders whenever one is the image of the other.
-/
open Tree

/-- **C16 (equivariance of the whole pixel loop).** -/
theorem C16_run_equivariant (E E' : Env) (σ : Nat → Nat) (order : List Nat)
    (hadj : ∀ p ∈ order, ∀ q ∈ order, (q ∈ E.nbrs p ↔ σ q ∈ E'.nbrs (σ p)))
    (hmono : ∀ p ∈ order, ∀ q ∈ order, (E.val p ≤ E.val q ↔ E'.val (σ p) ≤ E'.val (σ q)))
    (hindep : ∀ t t', P10.Sim σ t t' → t.kids = [] → t.own ≠ [] → (∀ x ∈ t.pixels, x ∈ order) →
      ∀ p ∈ order, E.indep t p (E.val p) = E'.indep t' (σ p) (E'.val (σ p))) :
    P10.SimL σ (run E order) (run E' (order.map σ)) :=
  P10.run_sim_of_hyp ⟨hadj, hmono, hindep⟩

/-- **C16 (what similarity means: regions).** The regions of the structures correspond in both directions. -/
theorem C16_similarity_regions {σ : Nat → Nat} {f f' : List Tree} (h : P10.SimL σ f f') :
    (∀ t ∈ preL f, ∃ t' ∈ preL f', t'.pixels.Perm (t.pixels.map σ)) ∧
    (∀ t' ∈ preL f', ∃ t ∈ preL f, t'.pixels.Perm (t.pixels.map σ)) :=
  ⟨fun t ht => ((P10.sim_nodes h).1 t ht).imp fun _ ⟨ht', hs⟩ => ⟨ht', hs.pixels⟩,
    fun t' ht' => ((P10.sim_nodes h).2 t' ht').imp fun _ ⟨ht, hs⟩ => ⟨ht, hs.pixels⟩⟩
/-- The parent relation corresponds in both directions. -/
theorem C16_similarity_parent {σ : Nat → Nat} {f f' : List Tree} (h : P10.SimL σ f f') :
    (∀ P ∈ preL f, ∀ c ∈ P.kids, ∃ P' ∈ preL f', ∃ c' ∈ P'.kids,
      P'.pixels.Perm (P.pixels.map σ) ∧ c'.pixels.Perm (c.pixels.map σ)) ∧
    (∀ P' ∈ preL f', ∀ c' ∈ P'.kids, ∃ P ∈ preL f, ∃ c ∈ P.kids,
      P'.pixels.Perm (P.pixels.map σ) ∧ c'.pixels.Perm (c.pixels.map σ)) :=
  ⟨fun P hP c hc => by
      obtain ⟨P', hP', hs⟩ := (P10.sim_nodes h).1 P hP
      obtain ⟨c', hc', hsc⟩ := hs.kids.mem_left c hc
      exact ⟨P', hP', c', hc', hs.pixels, hsc.pixels⟩,
    fun P' hP' c' hc' => by
      obtain ⟨P, hP, hs⟩ := (P10.sim_nodes h).2 P' hP'
      obtain ⟨c, hc, hsc⟩ := hs.kids.mem_right c' hc'
      exact ⟨P, hP, c, hc, hs.pixels, hsc.pixels⟩⟩
/-- The numbers of structures and of leaves agree. -/
theorem C16_similarity_counts {σ : Nat → Nat} {f f' : List Tree} (h : P10.SimL σ f f') :
    (preL f).length = (preL f').length ∧
    ((preL f).filter Tree.isLeaf).length = ((preL f').filter Tree.isLeaf).length :=
  ⟨h.preL.length_eq, (h.preL.filter fun _ _ _ hs => hs.isLeaf).length_eq⟩
/-- Parentless structures correspond to parentless structures. -/
theorem C16_similarity_trunk {σ : Nat → Nat} {f f' : List Tree} (h : P10.SimL σ f f') :
    (∀ t ∈ f, ∃ t' ∈ f', t'.pixels.Perm (t.pixels.map σ)) ∧
    (∀ t' ∈ f', ∃ t ∈ f, t'.pixels.Perm (t.pixels.map σ)) :=
  ⟨fun t ht => (h.mem_left t ht).imp fun _ ⟨ht', hs⟩ => ⟨ht', hs.pixels⟩,
    fun t' ht' => (h.mem_right t' ht').imp fun _ ⟨ht, hs⟩ => ⟨ht, hs.pixels⟩⟩

/-- **C16 (affine value maps with the built-in criteria).** `v ↦ a·v + b`, `a > 0`, with
`min_delta ↦ a·min_delta`, `min_npix` kept, `min_peak` mapped like a value and seeds renamed. -/
theorem C16_affine_builtin (val val' : Nat → Int) (nbrs nbrs' : Nat → List Nat) (σ : Nat → Nat)
    (order : List Nat) (a b : Int) (ha : 0 < a)
    (hval : ∀ p ∈ order, val' (σ p) = a * val p + b)
    (hadj : ∀ p ∈ order, ∀ q ∈ order, (q ∈ nbrs p ↔ σ q ∈ nbrs' (σ p)))
    (cs : List Crit) (hns : ∀ c ∈ cs, ∀ s, c ≠ Crit.minSum s)
    (hseed : ∀ c ∈ cs, ∀ s ∈ P10.seedsOf c, ∀ x ∈ order, σ x = σ s → x = s) :
    P10.SimL σ (run (envOf val nbrs cs) order)
      (run (envOf val' nbrs' (cs.map (P10.critAffine σ a b))) (order.map σ)) :=
  P10.run_sim_builtin_affine val val' nbrs nbrs' σ order a b ha hval hadj cs hns hseed

/-- **C16 (pure renamings with all built-in criteria)**: axis permutations, flips, pads, unit
axes, cyclic shifts. -/
theorem C16_rename_builtin (val val' : Nat → Int) (nbrs nbrs' : Nat → List Nat) (σ : Nat → Nat)
    (order : List Nat) (hval : ∀ p ∈ order, val' (σ p) = val p)
    (hadj : ∀ p ∈ order, ∀ q ∈ order, (q ∈ nbrs p ↔ σ q ∈ nbrs' (σ p)))
    (cs : List Crit)
    (hseed : ∀ c ∈ cs, ∀ s ∈ P10.seedsOf c, ∀ x ∈ order, σ x = σ s → x = s) :
    P10.SimL σ (run (envOf val nbrs cs) order)
      (run (envOf val' nbrs' (cs.map (P10.critRename σ))) (order.map σ)) :=
  P10.run_sim_builtin_rename val val' nbrs nbrs' σ order hval hadj cs hseed

/-- **C16 (axis permutations).** For any permutation `τ` of the axes (with inverse `τ'`), the
run on the transposed array is similar to the original run; periodic axes are carried along. -/
theorem C16_axis_permutation (shape periodic : List Nat) (τ τ' : Nat → Nat)
    (h1 : ∀ i, τ (τ' i) = i) (h2 : ∀ i, τ' (τ i) = i)
    (hτ : ∀ i, i < shape.length → τ i < shape.length) (hτ' : ∀ i, i < shape.length → τ' i < shape.length)
    (val : Nat → Int) (order : List Nat) (cs : List Crit)
    (horder : ∀ p ∈ order, p < Grid.size shape)
    (hseeds : ∀ c ∈ cs, ∀ s ∈ P10.seedsOf c, s < Grid.size shape)
    (val' : Nat → Int)
    (hval : ∀ p ∈ order, val' (P19.liftC shape (P19.permC τ shape) (P19.permC τ) p) = val p) :
    P10.SimL (P19.liftC shape (P19.permC τ shape) (P19.permC τ))
      (run (envOf val (Grid.nbrs shape periodic) cs) order)
      (run (envOf val' (Grid.nbrs (P19.permC τ shape) (periodic.map τ'))
          (cs.map (P10.critRename (P19.liftC shape (P19.permC τ shape) (P19.permC τ)))))
        (order.map (P19.liftC shape (P19.permC τ shape) (P19.permC τ)))) :=
  (P19.perm_axisMap shape periodic τ τ' h1 h2 hτ hτ').invariance val order cs horder hseeds val' hval

/-- **C16 (flips).** -/
theorem C16_flip (shape periodic : List Nat) (a : Nat)
    (val : Nat → Int) (order : List Nat) (cs : List Crit)
    (horder : ∀ p ∈ order, p < Grid.size shape)
    (hseeds : ∀ c ∈ cs, ∀ s ∈ P10.seedsOf c, s < Grid.size shape)
    (val' : Nat → Int)
    (hval : ∀ p ∈ order, val' (P19.liftC shape shape (P19.flipC shape a) p) = val p) :
    P10.SimL (P19.liftC shape shape (P19.flipC shape a))
      (run (envOf val (Grid.nbrs shape periodic) cs) order)
      (run (envOf val' (Grid.nbrs shape periodic)
        (cs.map (P10.critRename (P19.liftC shape shape (P19.flipC shape a)))))
        (order.map (P19.liftC shape shape (P19.flipC shape a)))) :=
  (P19.flip_axisMap shape periodic a).invariance val order cs horder hseeds val' hval

/-- **C16 (inserting a length-one axis).** -/
theorem C16_unit_axis (shape periodic : List Nat) (j : Nat) (hj : j ≤ shape.length)
    (val : Nat → Int) (order : List Nat) (cs : List Crit)
    (horder : ∀ p ∈ order, p < Grid.size shape)
    (hseeds : ∀ c ∈ cs, ∀ s ∈ P10.seedsOf c, s < Grid.size shape)
    (val' : Nat → Int)
    (hval : ∀ p ∈ order, val' (P19.liftC shape (P19.insShape j shape) (P19.insC j) p) = val p) :
    P10.SimL (P19.liftC shape (P19.insShape j shape) (P19.insC j))
      (run (envOf val (Grid.nbrs shape periodic) cs) order)
      (run (envOf val' (Grid.nbrs (P19.insShape j shape) (periodic.map (fun x => if x ≥ j then x + 1 else x)))
          (cs.map (P10.critRename (P19.liftC shape (P19.insShape j shape) (P19.insC j)))))
        (order.map (P19.liftC shape (P19.insShape j shape) (P19.insC j)))) :=
  (P19.unit_axisMap shape periodic j hj).invariance val order cs horder hseeds val' hval

/-- **C16 (padding with borders that are not processed — below threshold or NaN).** -/
theorem C16_pad (shape lo hi : List Nat) (hlo : lo.length = shape.length) (hhi : hi.length = shape.length)
    (val : Nat → Int) (order : List Nat) (cs : List Crit)
    (horder : ∀ p ∈ order, p < Grid.size shape)
    (hseeds : ∀ c ∈ cs, ∀ s ∈ P10.seedsOf c, s < Grid.size shape)
    (val' : Nat → Int)
    (hval : ∀ p ∈ order, val' (P19.liftC shape (P19.padShape shape lo hi) (P19.padC lo) p) = val p) :
    P10.SimL (P19.liftC shape (P19.padShape shape lo hi) (P19.padC lo))
      (run (envOf val (Grid.nbrs shape []) cs) order)
      (run (envOf val' (Grid.nbrs (P19.padShape shape lo hi) [])
          (cs.map (P10.critRename (P19.liftC shape (P19.padShape shape lo hi) (P19.padC lo)))))
        (order.map (P19.liftC shape (P19.padShape shape lo hi) (P19.padC lo)))) :=
  (P19.pad_axisMap shape lo hi hlo hhi).invariance val order cs horder hseeds val' hval

/-- **C16 (raising the threshold only restricts the structures).** With pairwise distinct values and no pruning, the
forest the pixel loop builds on the pixels above a higher level `thr` is the original one with every structure's own
pixels restricted to those pixels and emptied structures dropped (identical identifiers, own lists and children, up to
the order of the root list). -/
theorem C16_threshold_restriction (E : Env) (order : List Nat) (thr : Int)
    (hstrict : order.Pairwise (fun a b => E.val b < E.val a)) (hno : ∀ t p v, E.indep t p v = true) :
    (P26.restrictL (fun x => decide (thr < E.val x)) (run E order)).Perm
      (run E (order.filter (fun x => decide (thr < E.val x)))) := by
  have hs := P26.split_at_level E.val thr order hstrict
  have h := P26.threshold_restriction_keep E _ _ (fun x => decide (thr < E.val x)) (hs ▸ hstrict) hno
    (fun x hx => (List.mem_filter.mp hx).2) (fun x hx => by simpa using (List.mem_filter.mp hx).2)
  rwa [← hs] at h

-- non-vacuity: the witness at the end of ADProofs/SimProofs.lean applies `P10.run_sim_builtin_affine` (the proof of
-- `C16_affine_builtin`) to the values `3 1 3 1 2` flipped and mapped by `v ↦ 2v + 7`; identifiers and child order
-- differ between the two runs.  Here only: the scale is positive and the second order is the image of the first.
example : (0 : Int) < 2 ∧ [0, 2, 4, 1, 3].map (fun p => 4 - p) = [4, 2, 0, 3, 1] := by decide

/-- **C16 (ties: number of leaves).** `E'` is `E` with pixels renamed by `σ` (adjacency corresponds,
the order of values is preserved: any axis permutation, flip, padding, unit axis, `a·v+b` with
`a > 0`, any strictly increasing map), neither run prunes, and `order'` is ANY admissible order
of the renamed pixels (ties may be broken differently): the two runs have the same number of
leaves. -/
theorem C16_leaf_count_invariant (E E' : Env) (σ : Nat → Nat) (order order' : List Nat)
    (hsym' : ∀ x y, y ∈ E'.nbrs x → x ∈ E'.nbrs y)
    (hno : ∀ t p v, E.indep t p v = true) (hno' : ∀ t p v, E'.indep t p v = true)
    (hadj : ∀ p ∈ order, ∀ q ∈ order, (q ∈ E.nbrs p ↔ σ q ∈ E'.nbrs (σ p)))
    (hmono : ∀ p ∈ order, ∀ q ∈ order, (E.val p ≤ E.val q ↔ E'.val (σ p) ≤ E'.val (σ q)))
    (hperm' : order'.Perm (order.map σ)) (hnd' : order'.Nodup)
    (hs' : order'.Pairwise (fun a b => E'.val b ≤ E'.val a))
    (hs : order.Pairwise (fun a b => E.val b ≤ E.val a)) :
    (P34.leavesOf (run E order)).length = (P34.leavesOf (run E' order')).length := by
  have hsim : P10.SimL σ (run E order) (run E' (order.map σ)) :=
    P10.run_sim_of_hyp ⟨hadj, hmono, fun t t' _ _ _ _ p _ => by rw [hno, hno']⟩
  have hsσ : (order.map σ).Pairwise (fun a b => E'.val b ≤ E'.val a) :=
    List.pairwise_map.mpr (hs.imp_of_mem fun ha hb h => (hmono _ hb _ ha).mp h)
  exact (C16_similarity_counts hsim).2.trans
    (P34.leaf_count_order_independent E' hsym' hno' order' (order.map σ) hperm' hnd' hs' hsσ).symm

/-- **C16 (ties: assigned pixels and trunk regions)** are order-independent for criteria that can
only turn true as a structure grows: see `C17_assigned_order_independent`,
`C17_trunk_regions_order_independent` (stated for any adjacency); for `min_sum` on negative data
they are not (`C17_K5_witness`; known findings K5 / K6). Here: the flipped row of K6. -/
theorem C16_K6_witness :
    let val : Nat → Int := fun p => [-3, -2, -3, -2].getD p 0
    let nb : Nat → List Nat := Grid.nbrs [4] []
    let E := envOf val nb [Crit.minSum (-2)]
    -- the order the implementation uses on the array, and the image of the order it uses on the flipped array
    sortedDesc val [3, 1, 2, 0] = true ∧ sortedDesc val [1, 3, 0, 2] = true ∧
    (pixelsL (makeTrunk E (run E [3, 1, 2, 0]))).length ≠ (pixelsL (makeTrunk E (run E [1, 3, 0, 2]))).length := by decide +kernel
