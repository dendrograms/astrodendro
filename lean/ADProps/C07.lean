import ADProofs
/-!
# C07 — pruning coarsens the tree to a fixpoint and keeps it consistent

`ic` (post-hoc criteria for a leaf with a parent) and `io` (criteria for a parentless leaf) are
ARBITRARY functions in every theorem: the statements cover min_delta / min_npix / any user
criteria.  `IdsNodup f` (identifiers pairwise distinct) is provided by C02.
-/
open Tree

/-- **C07 (fixpoint).** After pruning no leaf that has a parent fails the requested criteria, and
no parentless leaf fails the value-less ones.  (`hids` is not needed.) -/
theorem C07_every_leaf_passes (ic : Tree → Tree → Bool) (io : Tree → Bool) (f : List Tree) (hids : IdsNodup f) :
    (∀ P ∈ preL (pruneLoop ic (sizeL f) f), ∀ L ∈ P.kids, L.kids = [] → ic P L = true) ∧
    (∀ t ∈ prune ic io f, t.kids = [] → io t = true) :=
  have _ := hids
  ⟨(pruneForest_none_iff ic _).mp (pruneLoop_fixpoint_of_le ic _ f (Nat.le_refl _)), fun _ h => (mem_makeTrunkP.1 h).2⟩

/-- **C07 (regions and identifiers).** Every structure surviving the loop carries the identifier
of a former structure and has exactly the same region (with substructures). -/
theorem C07_regions_preserved (ic : Tree → Tree → Bool) (n : Nat) (f : List Tree) (hids : IdsNodup f) :
    ∀ s' ∈ preL (pruneLoop ic n f), ∃ s ∈ preL f, s.id = s'.id ∧ s'.pixels.Perm s.pixels :=
  (pruneLoop_dissolves ic n f hids).regions

/-- **C07 (pixels).** The merge loop keeps every assigned pixel assigned exactly once (only the
final trunk step can drop whole parentless leaves). -/
theorem C07_pixels_preserved (ic : Tree → Tree → Bool) (n : Nat) (f : List Tree) (hids : IdsNodup f) :
    (pixelsL (pruneLoop ic n f)).Perm (pixelsL f) := (pruneLoop_dissolves ic n f hids).pixels

/-- **C07 (the trunk step).** What `_make_trunk` keeps after the loop are members of the trunk list it is given,
and every leaf among them passes `io`. -/
theorem C07_trunk_step (io : Tree → Bool) (f : List Tree) :
    (∀ t ∈ makeTrunkP io f, t ∈ f) ∧ (∀ t ∈ makeTrunkP io f, t.kids = [] → io t = true) :=
  ⟨fun _ h => (mem_makeTrunkP.1 h).1, fun _ h => (mem_makeTrunkP.1 h).2⟩

/-- **C07 (well-formedness is preserved).** Through the merge loop branches keep ≥ 2 children. -/
theorem C07_arity_preserved (ic : Tree → Tree → Bool) (n : Nat) (f : List Tree) (hids : IdsNodup f)
    (ha : ∀ s ∈ preL f, PArity s) : ∀ s ∈ preL (pruneLoop ic n f), PArity s := pruneLoop_arity ic n f hids ha
/-- Identifiers stay distinct. -/
theorem C07_ids_preserved (ic : Tree → Tree → Bool) (n : Nat) (f : List Tree) (hids : IdsNodup f) :
    IdsNodup (pruneLoop ic n f) := pruneLoop_idsNodup ic n f hids

/-- **C07 (the parent of a surviving structure is its nearest surviving former ancestor).**
`P21.ancestors f i` lists the identifiers of the proper ancestors of structure `i`, nearest first;
pruning only deletes identifiers from every ancestor chain. -/
theorem C07_nearest_surviving_ancestor (ic : Tree → Tree → Bool) (n : Nat) (f : List Tree) (hids : IdsNodup f) :
    ∀ s' ∈ preL (pruneLoop ic n f), P21.ancestors (pruneLoop ic n f) s'.id =
      (P21.ancestors f s'.id).filter (fun a => a ∈ (preL (pruneLoop ic n f)).map Tree.id) :=
  (P21.dissolves_transfer (pruneLoop_dissolves ic n f hids) hids).1

/-- **C07 (pixels of removed structures pass to that ancestor).** The own pixels of a surviving
structure are its former own pixels plus the own pixels of exactly those removed structures whose
nearest surviving former ancestor it is. -/
theorem C07_own_transfer (ic : Tree → Tree → Bool) (n : Nat) (f : List Tree) (hids : IdsNodup f) :
    ∀ s' ∈ preL (pruneLoop ic n f), ∃ s ∈ preL f, s.id = s'.id ∧
      s'.own.Perm (s.own ++ ((preL f).filter (fun r => r.id ∉ (preL (pruneLoop ic n f)).map Tree.id ∧
        (P21.ancestors f r.id).find? (fun a => a ∈ (preL (pruneLoop ic n f)).map Tree.id) = some s.id)).flatMap Tree.own) :=
  P21.dissolves_own_transfer (pruneLoop_dissolves ic n f hids) hids

/-- **C07 (idempotence).** Pruning again with the same criteria changes nothing. -/
theorem C07_idempotent (ic : Tree → Tree → Bool) (io : Tree → Bool) (f : List Tree) :
    prune ic io (prune ic io f) = prune ic io f := prune_idempotent' ic io f

/-- **C07 (no-op).** Pruning with criteria every leaf already meets changes nothing (up to the
trunk list being sorted by identifier). -/
theorem C07_noop (ic : Tree → Tree → Bool) (io : Tree → Bool) (f : List Tree)
    (hfix : pruneForest ic [] f = none) (hio : ∀ t ∈ f, t.kids = [] → io t = true) :
    prune ic io f = sortById f := by
  unfold prune makeTrunkP
  rw [pruneLoop_of_none ic _ f hfix, List.filter_eq_self]
  intro t ht
  have := hio t (mem_sortById.1 ht)
  by_cases hl : t.kids = []
  · simp [this hl]
  · simp [isLeaf, hl]

/-- **C07 (recorded parameters never decrease).** -/
theorem C07_params_monotone (recorded req : Int) : recorded ≤ (pruneParam recorded req).2 := by
  simp only [pruneParam]
  split <;> omega
/-- A request of 0 inherits the recorded value. -/
theorem C07_params_zero_inherits (recorded : Int) : pruneParam recorded 0 = (recorded, recorded) := by
  simp [pruneParam]

-- non-vacuity of `IdsNodup`: the identifiers of this three-level forest are distinct
example : IdsNodup [node 0 [4, 0] [node 2 [2] [node 1 [1] [], node 3 [3] []], node 4 [5] []]] := by
  unfold IdsNodup; decide +kernel

/-- **C07 (the prune loop on the object heap is the prune of the tree model).** `P41.loopMerges n h ic` lists the merges
that `n` rounds of the code's loop perform on the object heap: scan `all_structures` in prefix order for the first leaf
that is still present, has a parent and fails the criteria *evaluated on the heap as it is now* (`_to_prune`), apply the
two-sibling rule, merge with `_merge_with_parent`, rescan. For every well-formed heap, every criterion and every `n`
these merges are legal, and `Heap.prune` with them (the merges, then cache reset and trunk seeding), read as a forest of
the tree model, is `pruneLoop`; the heap is then well formed with sound caches. So the fixpoint, region, identifier and
arity theorems of this file are about what the object-level code computes. -/
theorem C07_heap_loop_refines {h : Heap} (w : P17.WF h) (icT : Tree → Tree → Bool) (n : Nat) :
    P17.Legal h (P41.loopMerges n h (P41.icOf icT)) ∧
    P35.absF (h.prune (P41.loopMerges n h (P41.icOf icT))) (h.prune (P41.loopMerges n h (P41.icOf icT))).size
        (P35.rootsOf (h.prune (P41.loopMerges n h (P41.icOf icT)))) =
      pruneLoop icT n (P35.absF h h.size (P35.rootsOf h)) ∧
    P17.WF (h.prune (P41.loopMerges n h (P41.icOf icT))) ∧ P17.Sound (h.prune (P41.loopMerges n h (P41.icOf icT))) :=
  P41.heap_prune_refines w icT n

/-- the whole of `prune` (loop to the fixpoint, then `_make_trunk`); `P41.loopRun n h ic` is the heap after `n` rounds of
that loop. After these `sizeL` rounds nothing is left to prune in the forest (`C07_every_leaf_passes`); that the scan on
the heap itself comes back empty, so that the generator has returned, is `P41.loopRun_fixpoint`, for `h.size - 1` rounds
or more. -/
theorem C07_heap_prune_is_prune {h : Heap} (w : P17.WF h) (icT : Tree → Tree → Bool) (io : Tree → Bool) :
    prune icT io (P35.absF h h.size (P35.rootsOf h)) =
      makeTrunkP io
        (P35.absF (P41.loopRun (sizeL (P35.absF h h.size (P35.rootsOf h))) h (P41.icOf icT))
          (P41.loopRun (sizeL (P35.absF h h.size (P35.rootsOf h))) h (P41.icOf icT)).size
          (P35.rootsOf (P41.loopRun (sizeL (P35.absF h h.size (P35.rootsOf h))) h (P41.icOf icT)))) :=
  by rw [P41.loopRun_refines w icT]; rfl
