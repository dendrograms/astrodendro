import ADProofs
/-!
# C17 — periodic axes wrap, and only they do
-/

/-- **C17 (characterisation on one axis).** On an axis of length `n`, `d` is a neighbour of `c`
iff they differ by one, or the axis is declared periodic and they are its two ends (this
includes `n = 1`, where a pixel is its own neighbour, and `n = 2`). -/
theorem C17_axis (n : Nat) (per : Bool) (c d : Nat) (hc : c < n) :
    d ∈ Grid.axisNbrs n per c ↔
      d < n ∧ ((d = c + 1) ∨ (c = d + 1) ∨ (per = true ∧ c + 1 = n ∧ d = 0) ∨ (per = true ∧ c = 0 ∧ d + 1 = n)) :=
  GridProofs.axisNbrs_mem n per c d hc

/-- **C17 (neighbours differ along exactly one axis, wrapping only where declared).** -/
theorem C17_neighbours (shape periodic c d : List Nat) (hc : InRange shape c) :
    d ∈ Grid.nbrsC shape periodic c ↔
      ∃ a, a < shape.length ∧ d = c.set a (d.getD a 0) ∧
        d.getD a 0 ∈ Grid.axisNbrs (shape.getD a 0) (periodic.contains a) (c.getD a 0) :=
  GridProofs.nbrsC_mem shape periodic c d hc

/-- **C17 (grid adjacency is symmetric on the grid)** — for all dimensions, shapes and sets of periodic axes: a
neighbour `q` of a pixel `p` of the grid is a pixel of the grid and has `p` as a neighbour.  (The hypothesis `SymmAdj`
of C03 / C05 asks the same of all `x y`, on the grid or not; it is not what is proved here.) -/
theorem C17_grid_symmetric (shape periodic : List Nat) (p q : Nat) (hp : p < Grid.size shape)
    (hq : q ∈ Grid.nbrs shape periodic p) : q < Grid.size shape ∧ p ∈ Grid.nbrs shape periodic q := by
  obtain ⟨hq, h⟩ := (GridProofs.nbrs_iff hp).mp hq
  exact ⟨hq, (GridProofs.nbrs_iff hq).mpr
    ⟨hp, (GridProofs.nbrsC_symm shape periodic _ _ (GridProofs.unravel_inRange shape p hp) h).2⟩⟩

/-- **C17 (a cyclic shift along a periodic axis is an automorphism of the adjacency).** -/
theorem C17_shift_automorphism (shape periodic : List Nat) (a k : Nat) (ha : periodic.contains a = true)
    (c d : List Nat) (hc : InRange shape c) (hd : InRange shape d) :
    d ∈ Grid.nbrsC shape periodic c ↔ shiftC shape a k d ∈ Grid.nbrsC shape periodic (shiftC shape a k c) :=
  (P19.shift_axisMap shape periodic a k ha).coord_adj c d hc hd

/-- **C17 (shift invariance of the pixel loop).** Cyclically shifting the data by any amount `k` along a declared
periodic axis `a`: the run on the shifted values (`val'`), processing the shifted order, is similar (same regions, same
parent relation) to the original run — for every shape (axes of length 1 and 2 included), every set of periodic axes,
every value assignment and all built-in criteria (seeds are shifted with the data).  This is about `run`, the forest
before `_make_trunk`.  For distinct values the shifted order is the only admissible one (C04). -/
theorem C17_shift_invariance (shape periodic : List Nat) (a k : Nat) (ha : periodic.contains a = true)
    (val : Nat → Int) (order : List Nat) (cs : List Crit)
    (horder : ∀ p ∈ order, p < Grid.size shape)
    (hseeds : ∀ c ∈ cs, ∀ s ∈ P10.seedsOf c, s < Grid.size shape)
    (val' : Nat → Int)
    (hval : ∀ p ∈ order, val' (P19.liftC shape shape (shiftC shape a k) p) = val p) :
    P10.SimL (P19.liftC shape shape (shiftC shape a k))
      (run (envOf val (Grid.nbrs shape periodic) cs) order)
      (run (envOf val' (Grid.nbrs shape periodic)
        (cs.map (P10.critRename (P19.liftC shape shape (shiftC shape a k)))))
        (order.map (P19.liftC shape shape (shiftC shape a k)))) :=
  (P19.shift_axisMap shape periodic a k ha).invariance val order cs horder hseeds val' hval

section Ties
open Tree
/-! With ties the forest depends on the (unspecified) order `np.argsort` leaves equal values in, and
that order is not equivariant under a cyclic shift.  What the property promises "in general" is
order-independent for criteria that can only turn true as a structure grows. -/

/-- **C17 / C16 (ties: assigned pixels).** For `min_delta`, `min_npix`, `min_peak`, `contains_seeds`
and `min_sum` on non-negative data (`P32.MonoCrit`), any symmetric adjacency, and any two
permutations `o₁`, `o₂` of the same duplicate-free set of above-threshold pixels (in particular the
two non-increasing orders of the original and of the shifted / relabelled run, mapped back): the
sets of pixels that `compute` assigns are the same. -/
theorem C17_assigned_order_independent (val : Nat → Int) (nbrs : Nat → List Nat) (cs : List Crit)
    (o₁ o₂ : List Nat) (hsym : ∀ x y, y ∈ nbrs x → x ∈ nbrs y) (hperm : o₁.Perm o₂) (hnd : o₁.Nodup)
    (hm : ∀ c ∈ cs, P32.MonoCrit val (fun x => x ∈ o₁) c) :
    ∀ p, p ∈ pixelsL (makeTrunk (envOf val nbrs cs) (run (envOf val nbrs cs) o₁)) ↔
      p ∈ pixelsL (makeTrunk (envOf val nbrs cs) (run (envOf val nbrs cs) o₂)) :=
  P32.assigned_order_independent' val nbrs cs o₁ o₂ hsym hperm hnd hm

/-- **C17 / C16 (ties: trunk regions).** Under the same hypotheses every surviving parentless
structure of one run has the same pixel set as a surviving parentless structure of the other. -/
theorem C17_trunk_regions_order_independent (val : Nat → Int) (nbrs : Nat → List Nat) (cs : List Crit)
    (o₁ o₂ : List Nat) (hsym : ∀ x y, y ∈ nbrs x → x ∈ nbrs y) (hperm : o₁.Perm o₂) (hnd : o₁.Nodup)
    (hm : ∀ c ∈ cs, P32.MonoCrit val (fun x => x ∈ o₁) c) :
    ∀ t₁ ∈ makeTrunk (envOf val nbrs cs) (run (envOf val nbrs cs) o₁),
      ∃ t₂ ∈ makeTrunk (envOf val nbrs cs) (run (envOf val nbrs cs) o₂), t₁.pixels.Perm t₂.pixels :=
  P32.trunk_transfer val nbrs cs o₁ o₂ hsym hperm hnd _ (fun _ hx => hx) hm

/-- **C17 (what decides survival).** A parentless structure survives the trunk step iff the
criteria hold for its region taken as one leaf — a function of the pixel set alone.  (`hnd` and `hsorted` are not
needed.) -/
theorem C17_root_survives_iff (val : Nat → Int) (nbrs : Nat → List Nat) (cs : List Crit) (order : List Nat)
    (hnd : order.Nodup) (hsorted : order.Pairwise (fun a b => val b ≤ val a))
    (hm : ∀ c ∈ cs, P32.MonoCrit val (fun x => x ∈ order) c) :
    ∀ t ∈ run (envOf val nbrs cs) order,
      (t ∈ makeTrunk (envOf val nbrs cs) (run (envOf val nbrs cs) order) ↔ P32.regionOK val cs t.pixels = true) :=
  have _ := hnd
  have _ := hsorted
  P32.root_survives_iff val nbrs cs order (fun x => x ∈ order) (fun _ hx => hx) hm

/-- **C17 (known finding K5, the hypothesis cannot be dropped).** `min_sum(-2)` on the periodic row
`-3 -2 -3 -2 -3`: the two admissible orders `[1,3,2,0,4]` and `[1,3,0,2,4]` assign different sets
of pixels (all five / none). The implementation shows both behaviours on the array and on the
array rolled by one (replayed by the check, corpus `C17/k5_min_sum_ties.json`). -/
theorem C17_K5_witness :
    P32.Ex.oB₁.Perm P32.Ex.oB₂ ∧ sortedDesc P32.Ex.vB P32.Ex.oB₁ = true ∧ sortedDesc P32.Ex.vB P32.Ex.oB₂ = true ∧
    pixelsL (makeTrunk P32.Ex.EB (run P32.Ex.EB P32.Ex.oB₁)) = [2, 0, 4, 1, 3] ∧
    pixelsL (makeTrunk P32.Ex.EB (run P32.Ex.EB P32.Ex.oB₂)) = [] := by decide +kernel

/-- **C17 / C16 (ties: number of leaves without pruning).** Without pruning the number of leaves is
the same for any two admissible orders (it is the number of plateau-aware regional maxima). -/
theorem C17_leaf_count_order_independent (E : Env) (hsym : ∀ x y, y ∈ E.nbrs x → x ∈ E.nbrs y)
    (hno : ∀ t p v, E.indep t p v = true) (o₁ o₂ : List Nat) (hperm : o₁.Perm o₂) (hnd : o₁.Nodup)
    (hs₁ : o₁.Pairwise (fun a b => E.val b ≤ E.val a)) (hs₂ : o₂.Pairwise (fun a b => E.val b ≤ E.val a)) :
    (P34.leavesOf (run E o₁)).length = (P34.leavesOf (run E o₂)).length :=
  P34.leaf_count_order_independent E hsym hno o₁ o₂ hperm hnd hs₁ hs₂
end Ties

/-- **C17 / C03 (the padded border is inert).** Neighbour coordinates −1 and `n` on a non-periodic axis land on the
extra cell that `compute` allocates and never writes. In the model: neighbours that are never processed contribute
nothing — the run with them in the adjacency lists equals the run with them removed, for every environment and order.
(`hnd` is not needed.) -/
theorem C17_padding_cells_inert (E : Env) (pad : Nat → Bool) (order : List Nat) (hnd : order.Nodup)
    (hpad : ∀ q, pad q = true → q ∉ order) : run (P36.dropCells E pad) order = run E order :=
  have _ := hnd
  P36.run_dropCells E pad order hpad
