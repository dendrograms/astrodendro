import ADProofs
/-!
# C02 — structures form a well-formed forest with consistent navigation

"One parent, listed once in that parent's child list" holds by construction of the inductive
`Tree` (the correspondence check verifies on the real objects that `parent` pointers and
`children` lists are two views of one forest).  Everything else is proved here.
-/
open Tree

/-- **C02 (branches have ≥ 2 children).** For every environment and order, every structure built
by the pixel loop and kept by `_make_trunk` is a leaf or has at least two children. -/
theorem C02_arity (E : Env) (order : List Nat) :
    ∀ t ∈ preL (makeTrunk E (run E order)), Arity t := makeTrunk_run_arity E order

/-- **C02 (iteration).** The implementation's `pop(0)` / `children + todo` loop visits the forest
in prefix order, i.e. every structure exactly once. -/
theorem C02_iteration_is_prefix_order (f : List Tree) : allStructures f = preL f := by
  fun_induction allStructures f with
  | case1 => rfl
  | case2 i o ks rest ih => rw [ih, preL_append]; rfl

/-- **C02 (iteration, order).** The loop visits every structure before each of its children. -/
theorem C02_parent_before_child (f : List Tree) (t c : Tree) (ht : t ∈ preL f) (hc : c ∈ t.kids) :
    ∃ l1 l2 l3, allStructures f = l1 ++ t :: l2 ++ c :: l3 := by
  rw [C02_iteration_is_prefix_order]
  obtain ⟨l1, l3, h⟩ := preL_infix ht
  obtain ⟨k1, k2, hk⟩ := List.append_of_mem hc
  refine ⟨l1, preL k1, preL c.kids ++ preL k2 ++ l3, ?_⟩
  rw [← h, pre_eq t, hk, preL_append, preL_cons, pre_eq c]
  simp only [List.cons_append, List.append_assoc]

/-- **C02 (identifiers are unique during the loop).** Temporary identifiers (creating pixels) are
pairwise distinct for a duplicate-free order. -/
theorem C02_temp_ids_unique (E : Env) (order : List Nat) (hnd : order.Nodup) :
    ((preL (run E order)).map Tree.id).Nodup := run_ids_nodup E order hnd

/-- **C02 (final identifiers are 0 … N-1).** After re-labelling a forest with distinct temporary
identifiers, the identifiers are exactly `0, …, N-1`, each carried by one structure. -/
theorem C02_final_ids (f : List Tree) (h : GoodForest f) :
    ((preL (relabel f)).map Tree.id).Perm (List.range (preL f).length) := relabel_ids_perm f h

/-- **C02 (identifiers of the dendrogram that `compute` returns).** They are exactly `0 … N-1`, each carried by
one structure. -/
theorem C02_compute_ids (E : Env) (order : List Nat) (hnd : order.Nodup) :
    ((preL (compute E order)).map Tree.id).Perm (List.range (preL (compute E order)).length) :=
  P30.compute_ids E order hnd
/-- In the dendrogram that `compute` returns every branch has ≥ 2 children and no structure is empty. -/
theorem C02_compute_arity (E : Env) (order : List Nat) :
    (∀ t ∈ preL (compute E order), PArity t) ∧ (∀ t ∈ preL (compute E order), t.own ≠ []) :=
  ⟨P30.compute_arity E order, P30.compute_own_nonempty E order⟩

/-- **C02 (for every dendrogram obtained by compute, prune and load).** `P30.Reach E order n f`:
`f` is obtained from `compute E order` by any sequence of prunes (arbitrary criteria) and
save/load cycles.  Every such forest is well formed (distinct identifiers, every pixel owned
once, in range), has branches with ≥ 2 children and no empty structure — so the accessor theorems
of C06 apply to it. -/
theorem C02_reachable_wellformed (E : Env) (order : List Nat) (hnd : order.Nodup) (n : Nat)
    (hn : ∀ p ∈ order, p < n) :
    ∀ f, P30.Reach E order n f →
      P8.WF f n ∧ IdsNodup f ∧ (∀ s ∈ preL f, PArity s) ∧ (∀ s ∈ preL f, s.own ≠ []) :=
  by
  intro f hf
  induction hf with
  | base =>
    exact ⟨P30.compute_wf E order hnd n hn, P30.compute_idsNodup E order hnd, P30.compute_arity E order,
      P30.compute_own_nonempty E order⟩
  | pruneStep ic io f _ ih =>
    obtain ⟨hwf, hids, har, hown⟩ := ih
    exact ⟨P30.prune_wf ic io f n hwf, P30.prune_idsNodup ic io f hids, P30.prune_arity ic io f hids har,
      P30.prune_own_nonempty ic io f hids hown⟩
  | reloadStep f _ ih =>
    obtain ⟨hwf, _, har, hown⟩ := ih
    have hsim := P21.reload_sim f n hwf
    have hwf' := P21.reload_wf f n hwf
    exact ⟨hwf', hwf'.1, hsim.arity har, hsim.own_nonempty hown⟩

-- non-vacuity: a forest with a branch satisfying `GoodForest`
example : GoodForest [node 7 [3, 0] [node 2 [1] [], node 9 [4] []], node 5 [6] []] := by
  unfold GoodForest; decide +kernel
