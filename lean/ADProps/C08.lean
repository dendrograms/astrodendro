import ADProofs
/-!
# C08 — pruning afterwards equals computing with the stricter parameters

This property is **false of the code as it is** for `min_delta` (known finding K1): the post-hoc
test compares a leaf's height with its parent's height, the compute-time test compares its peak
with the value of the joining pixel.  The negation is proved here by concrete witnesses (replayed
on the implementation by the check); what *is* true is stated as far as it is proved:
* the compute-time test is literally `Crit.childOrig` (the post-hoc rule with the original merge level,
  "ruleOrig" in the theorem names);
* for `min_npix` the two phases apply the same test;
* for `min_npix` (with `min_delta = 0` throughout) the property holds of the code as it is, for
  every input (`C08_npix`);
* with the post-hoc rule that uses every structure's *original merge level* (`allChildOrig`, the
  one-line idea of a repair) it holds for `min_delta` and `min_npix` together, for every input
  (`C08_full`).  The check uses exactly this rule as arbiter when it classifies a disagreement of
  the real code as K1.
-/
open Tree

/-- hierarchy abstraction: (region, parent's region) for every structure, regions sorted -/
def hierOf (f : List Tree) : List (List Nat × Option (List Nat)) :=
  (rows f).map fun r =>
    (sortNat r.pixelsSub, r.parent.bind fun p => ((rows f).find? (fun q => q.id == p)).map (fun q => sortNat q.pixelsSub))

/-- values `3 1 2` on a row of three pixels, face adjacency -/
def w1Val : Nat → Int := fun p => [3, 1, 2].getD p 0
def w1Env (d : Int) : Env := envOf w1Val (Grid.nbrs [3] []) [Crit.minDelta d, Crit.minNpix 0]

/-- **C08 (counterexample: criterion).** `compute(min_delta=0)` then `prune(min_delta=1)` gives one
leaf; `compute(min_delta=1)` gives a branch with two leaves. -/
theorem C08_counterexample_criterion :
    let loose := compute (w1Env 0) [0, 2, 1]
    let pruned := prune (allChild w1Val [Crit.minDelta 1, Crit.minNpix 0]) (allOrphan w1Val [Crit.minDelta 1, Crit.minNpix 0]) loose
    let strict := compute (w1Env 1) [0, 2, 1]
    (nodes pruned).length = 1 ∧ (nodes strict).length = 3 := by decide +kernel

/-- with the original merge level the same prune keeps the branch (agrees with direct compute) -/
theorem C08_ruleOrig_agrees_on_witness :
    let loose := compute (w1Env 0) [0, 2, 1]
    let tbl := origLevelsL w1Val loose
    let pruned := prune (allChildOrig w1Val tbl [Crit.minDelta 1, Crit.minNpix 0]) (allOrphan w1Val [Crit.minDelta 1, Crit.minNpix 0]) loose
    (nodes pruned).length = 3 := by decide +kernel

/-- **C08 (the compute-time test is the post-hoc test at the original merge level).** For a leaf
`t` whose original merge level `lv` is recorded in the table, `Crit.childOrig` is `min_delta ≤ vmax − lv`,
which is exactly `Crit.atMerge` at the joining value `lv`. -/
theorem C08_ruleOrig_eq_computeTime (val : Nat → Int) (tbl : List (Nat × Int)) (d : Int) (parent t : Tree) (lv : Int)
    (h : lookupLevel tbl t.id = some lv) :
    (Crit.minDelta d).childOrig val tbl parent t = (Crit.minDelta d).atMerge val t lv := by
  simp [Crit.childOrig, Crit.atMerge, h]

/-- **C08 (holds for `min_npix`).** For every value assignment (ties allowed), every adjacency, every
non-increasing duplicate-free processing order and all `n0 ≤ n1`: computing with `min_npix = n0`
and then pruning with `min_npix = n1` gives the same hierarchy (same regions, same parent
relation; `P10.SimL id` ignores identifiers, child order and own-pixel order) as computing with
`min_npix = n1` directly, `min_delta` being 0 throughout. -/
theorem C08_npix (val : Nat → Int) (nbrs : Nat → List Nat) (order : List Nat) (n0 n1 : Nat)
    (hnd : order.Nodup) (hsorted : order.Pairwise (fun a b => val b ≤ val a)) (h01 : n0 ≤ n1) :
    P10.SimL (fun p => p)
      (prune (allChild val [Crit.minDelta 0, Crit.minNpix n1]) (allOrphan val [Crit.minDelta 0, Crit.minNpix n1])
        (makeTrunk (envOf val nbrs [Crit.minDelta 0, Crit.minNpix n0]) (run (envOf val nbrs [Crit.minDelta 0, Crit.minNpix n0]) order)))
      (makeTrunk (envOf val nbrs [Crit.minDelta 0, Crit.minNpix n1]) (run (envOf val nbrs [Crit.minDelta 0, Crit.minNpix n1]) order)) :=
  P18.prune_eq_compute_npix val nbrs order n0 n1 hnd hsorted h01

/-- **C08 (full statement, for the corrected post-hoc rule).** For all values (ties allowed), any
adjacency, any non-increasing duplicate-free order, all `d0 ≤ d1`, `n0 ≤ n1`: computing with
`(d0, n0)` and pruning with `(d1, n1)` under the original-merge-level rule yields the same
hierarchy as computing with `(d1, n1)`. -/
theorem C08_full (val : Nat → Int) (nbrs : Nat → List Nat) (order : List Nat) (d0 d1 : Int) (n0 n1 : Nat)
    (hnd : order.Nodup) (hsorted : order.Pairwise (fun a b => val b ≤ val a)) (hd : d0 ≤ d1) (hn : n0 ≤ n1) :
    P10.SimL (fun p => p)
      (prune (allChildOrig val (origLevelsL val (makeTrunk (envOf val nbrs [Crit.minDelta d0, Crit.minNpix n0])
                (run (envOf val nbrs [Crit.minDelta d0, Crit.minNpix n0]) order))) [Crit.minDelta d1, Crit.minNpix n1])
             (allOrphan val [Crit.minDelta d1, Crit.minNpix n1])
             (makeTrunk (envOf val nbrs [Crit.minDelta d0, Crit.minNpix n0]) (run (envOf val nbrs [Crit.minDelta d0, Crit.minNpix n0]) order)))
      (makeTrunk (envOf val nbrs [Crit.minDelta d1, Crit.minNpix n1]) (run (envOf val nbrs [Crit.minDelta d1, Crit.minNpix n1]) order)) :=
  P28.pruneOrig_eq_compute val nbrs order d0 d1 n0 n1 hnd hsorted hd hn

/-- **C08 (`min_npix` is the same test in both phases).** -/
theorem C08_npix_same_test (val : Nat → Int) (n : Nat) (parent t : Tree) (v : Int) :
    (Crit.minNpix n).child val parent t = (Crit.minNpix n).atMerge val t v := by
  simp [Crit.child, Crit.atMerge]

/-- **C08 (prune inherits the compute-time parameters when given 0).** -/
theorem C08_zero_inherits (recorded : Int) : pruneParam recorded 0 = (recorded, recorded) := by
  simp [pruneParam]
