import ADProofs
/-!
# C18 — the plotted tree is planar and drawn at the right heights

`key : Nat → Int` maps structure identifiers to the requested sort key, `rev` is `reverse`.
-/
open Tree

/-- **C18 (siblings and trunk structures are ordered by the requested key, reversed on request).** -/
theorem C18_sorted_by_key (key : Nat → Int) (l : List Tree) :
    (Plot.sortedPy key false l).Pairwise (fun a b => key a.id ≤ key b.id) ∧
    (Plot.sortedPy key true l).Pairwise (fun a b => key a.id ≥ key b.id) ∧
    (∀ rev, (Plot.sortedPy key rev l).Perm l) :=
  ⟨by simpa [Plot.sortedPy] using P15.sortAsc_sorted key l,
   by simpa only [Plot.sortedPy, if_true, List.pairwise_reverse] using P15.sortAsc_sorted key l.reverse,
   fun rev => P15.sortedPy_perm key rev l⟩

/-- **C18 (leaves sit at distinct consecutive integer positions).** The leaf order is a
permutation of the leaves; with distinct identifiers every leaf has its own position, below the
number of leaves. -/
theorem C18_leaf_positions (key : Nat → Int) (rev : Bool) (f : List Tree) (hids : ((preL f).map Tree.id).Nodup) :
    (Plot.leafOrder key rev f).Perm (P15.leafIdsL f) ∧ (Plot.leafOrder key rev f).Nodup ∧
    ∀ t ∈ preL f, t.isLeaf = true → Plot.idxOfNat (Plot.leafOrder key rev f) t.id < (P15.leafIdsL f).length :=
  have hperm := P15.leafOrder_perm key rev f
  ⟨hperm, hperm.nodup_iff.mpr (List.Nodup.sublist (List.filter_sublist.map _) hids), fun t ht hl => by
    rw [← hperm.length_eq]
    exact List.idxOf_lt_length_of_mem
      (hperm.mem_iff.mpr (List.mem_map.mpr ⟨t, List.mem_filter.mpr ⟨ht, hl⟩, rfl⟩))⟩

/-- **C18 (every structure's leaves occupy a contiguous interval)** — hence no lines cross. -/
theorem C18_subtree_contiguous (key : Nat → Int) (rev : Bool) (f : List Tree) (hids : ((preL f).map Tree.id).Nodup)
    (t : Tree) (ht : t ∈ preL f) :
    ∃ l1 l2 mid, Plot.leafOrder key rev f = l1 ++ mid ++ l2 ∧ mid.Perm (P15.leafIds t) := by
  have _ := hids  -- not needed: contiguity holds without distinct identifiers
  obtain ⟨l1, l2, h⟩ := P15.sortedLeaves_infix_leafOrder key rev ht
  exact ⟨l1, l2, _, h.symm, P15.sortedLeaves_perm key rev t⟩

/-- **C18 (a branch sits at the mean of its children, between the outermost ones).** -/
theorem C18_branch_between (ps : List Rat) (h : ps ≠ []) :
    Plot.minQ' ps ≤ Plot.meanQ ps ∧ Plot.meanQ ps ≤ Plot.maxQ' ps :=
  P15.meanQ_between h (P15.minQ'_le ps) (P15.le_maxQ' ps)

/-- **C18 (line geometry: the vertical).** The first segment of a structure is the vertical from its
parent's height (own minimum for trunk structures) to its own height, mapped to the structure. -/
theorem C18_lines_vertical (val : Nat → Int) (order : List Nat) (parentH : Option Int) (i : Nat) (o : List Nat) (ks : List Tree) :
    (Plot.lines val order parentH (node i o ks)).head? =
      some { x0 := Plot.pos order (node i o ks), y0 := parentH.getD ((node i o ks).vmin val),
             x1 := Plot.pos order (node i o ks), y1 := (node i o ks).height val, sid := i } := by
  simp [Plot.lines]
/-- **C18 (line geometry: every segment is mapped to a structure of the plotted subtree).** -/
theorem C18_lines_mapping (val : Nat → Int) (order : List Nat) (parentH : Option Int) (t : Tree) :
    ∀ g ∈ Plot.lines val order parentH t, ∃ s ∈ pre t, g.sid = s.id := by
  induction t using Tree.ind generalizing parentH with
  | h i o ks ih =>
    intro g hg
    simp only [Plot.lines, P15.linesL_eq_flatMap, List.cons_append, List.mem_cons, List.mem_append,
      List.mem_flatMap] at hg
    rcases hg with rfl | hg | ⟨k, hk, hg⟩
    · exact ⟨_, mem_pre_self _, rfl⟩
    · split at hg
      · cases hg
      · exact ⟨_, mem_pre_self _, by rw [List.mem_singleton.mp hg]; rfl⟩
    · obtain ⟨s, hs, e⟩ := ih k hk _ g hg
      exact ⟨s, pre_subset_pre (kid_mem_pre hk) s hs, e⟩
/-- **C18 (line geometry: one vertical per structure and one horizontal per branch).** -/
theorem C18_lines_count (val : Nat → Int) (order : List Nat) (parentH : Option Int) (t : Tree) :
    (Plot.lines val order parentH t).length = (pre t).length + ((pre t).filter (fun s => !s.isLeaf)).length :=
  (P15.lines_count_both val order).1 t parentH

/-- **C18 (no lines cross).** Structures that are not in ancestor relation have disjoint leaf sets;
with contiguity and distinct leaf positions their leaf intervals are disjoint. -/
theorem C18_disjoint_subtrees (f : List Tree) (hids : ((preL f).map Tree.id).Nodup) (t t' : Tree)
    (ht : t ∈ preL f) (ht' : t' ∈ preL f) (hdis : t ∉ pre t' ∧ t' ∉ pre t) :
    ∀ x ∈ P15.leafIds t, x ∉ P15.leafIds t' := by
  intro x hx hx'
  rcases P15.nested_or_disjoint.2 f hids t ht t' ht' with h | h | h
  · exact hdis.1 h
  · exact hdis.2 h
  · obtain ⟨a, ha, hax⟩ := List.mem_map.mp hx
    obtain ⟨b, hb, hbx⟩ := List.mem_map.mp hx'
    exact h a (List.mem_filter.mp ha).1 b (List.mem_filter.mp hb).1 (hax.trans hbx.symm)
/-- **C18 (no lines cross: a child's vertical line lies within its parent's horizontal span).** -/
theorem C18_child_within_span (order : List Nat) (ks : List Tree) (c : Tree) (hc : c ∈ ks) :
    Plot.minQ' (Plot.posL order ks) ≤ Plot.pos order c ∧ Plot.pos order c ≤ Plot.maxQ' (Plot.posL order ks) :=
  have hm : Plot.pos order c ∈ Plot.posL order ks := by
    rw [P15.posL_eq_map]; exact List.mem_map_of_mem hc
  ⟨P15.minQ'_le _ _ hm, P15.le_maxQ' _ _ hm⟩
