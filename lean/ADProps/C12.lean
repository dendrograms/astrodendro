import ADProofs
/-!
# C12 (part in the core library) — catalogs have one faithful row per structure

`CatalogRows.make stat structures` is `_make_catalog`: the statistic is evaluated on each
structure alone, rows are sorted by identifier.  The wrap heuristic is in `ADPropsM/C12.lean`.
-/
open Tree

/-- **C12 (one row per structure, ordered by identifier, naming the structure).** -/
theorem C12_rows_ids {α : Type} (stat : Tree → α) (l : List Tree) :
    ((CatalogRows.make stat l).map (·.1)).Perm (l.map Tree.id) ∧
    ((CatalogRows.make stat l).map (·.1)).Pairwise (· ≤ ·) ∧
    (CatalogRows.make stat l).length = l.length :=
  ⟨by simpa [List.map_map, Function.comp_def] using (P21.make_perm stat l).map (·.1),
    List.pairwise_map.mpr (P21.make_sorted stat l), by simpa using (P21.make_perm stat l).length_eq⟩

/-- **C12 (every field is the statistic computed for that structure alone).** -/
theorem C12_rows_faithful {α : Type} (stat : Tree → α) (l : List Tree) :
    (∀ r ∈ CatalogRows.make stat l, ∃ s ∈ l, r = (s.id, stat s)) ∧
    (∀ s ∈ l, (s.id, stat s) ∈ CatalogRows.make stat l) :=
  ⟨fun _ hr =>
      let ⟨s, hs, e⟩ := List.mem_map.mp ((P21.make_perm stat l).mem_iff.mp hr)
      ⟨s, hs, e.symm⟩,
    fun s hs => (P21.make_perm stat l).mem_iff.mpr (List.mem_map.mpr ⟨s, hs, rfl⟩)⟩
