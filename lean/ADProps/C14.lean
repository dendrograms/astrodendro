import ADProofs
/-!
# C14 — no answer depends on what was asked before (no stale derived state)

The per-object caches of `Structure` are modelled on an object heap (`ADModel/Cache.lean`), the
operations mirror the code assignment by assignment (two exceptions: on a cache miss `Heap.descendants` and
`PHeap.getNpix` store the specified value instead of running a loop).  `P17.WF` is well-formedness of the links
(two views of one acyclic forest), `P17.Sound` says every filled cache entry equals what the live
links give (and parentless structures carry `_level = 0`, as `_make_trunk` ensures),
`P17.LegalHist` says queries address live structures and prunes merge structures that have a
parent.
-/

/-- **C14 (main).** For every history of cached queries (`level`, `ancestor`, `descendants`, `newick` — each of which
also *fills* caches) and prunes (any list of merges followed by the repaired cache reset), starting from any well-formed
heap with sound caches, every observation equals the one computed from the live links alone at that moment — what a
freshly constructed dendrogram with the same structures would report. -/
theorem C14_history_sound (h : Heap) (ops : List COp) (hwf : P17.WF h) (hs : P17.Sound h)
    (hlegal : P17.LegalHist h ops) :
    ∀ pr ∈ Heap.runHistory Heap.stepC h ops, pr.1 = pr.2 := P17.history_sound h ops hwf hs hlegal

/-- **C14 (each query is right and leaves the links alone).** For `descendants` the model stores `specDesc` itself on a
cache miss (`Heap.descendants`), so the first conjunct of `C14_descendants` says that a cache hit is right; that the
level-by-level loop of the code computes `specDesc` is `GenEq.h_descendants_total` (ADGen/EquivHeapDesc.lean). -/
theorem C14_level (h : Heap) (i : Nat) (hwf : P17.WF h) (hs : P17.Sound h) (hi : i ∈ h.alive) :
    (h.level h.size i).2 = h.specLevel h.size i ∧ P17.WF (h.level h.size i).1 ∧ P17.Sound (h.level h.size i).1 ∧
      P17.SameLinks h (h.level h.size i).1 :=
  ⟨(P17.level_fills hwf hs hi).1, (P17.level_fills hwf hs hi).2.done hwf⟩
theorem C14_descendants (h : Heap) (i : Nat) (hwf : P17.WF h) (hs : P17.Sound h) (hi : i ∈ h.alive) :
    (h.descendants h.size i).2 = some (h.specDesc h.size [i]) ∧ P17.WF (h.descendants h.size i).1 ∧
      P17.Sound (h.descendants h.size i).1 ∧ P17.SameLinks h (h.descendants h.size i).1 :=
  ⟨(P17.descendants_fills hwf hs hi).1, (P17.descendants_fills hwf hs hi).2.done hwf⟩

/-- **C14 (pruning re-establishes soundness).** -/
theorem C14_prune_sound (h : Heap) (ms : List Nat) (hwf : P17.WF h) (hms : P17.Legal h ms) :
    P17.WF (h.prune ms) ∧ P17.Sound (h.prune ms) := P17.prune_sound h ms hwf hms

/-- **C14 (the code before the repair violated the property)** — witnesses on a 7-structure tree:
query, prune, query again. -/
theorem C14_old_stale_level :
    ∃ pr ∈ Heap.runHistory Heap.stepOld P17.h0 [.qLevel 4, .prune [2, 3], .qLevel 4], pr.1 ≠ pr.2 := by decide +kernel
theorem C14_old_stale_descendants :
    ∃ pr ∈ Heap.runHistory Heap.stepOld P17.h0 [.qDesc 0, .prune [2, 3], .qDesc 0], pr.1 ≠ pr.2 := by decide +kernel
theorem C14_old_stale_newick :
    ∃ pr ∈ Heap.runHistory Heap.stepOld P17.h0 [.qNewick 0, .prune [2, 3], .qNewick 0], pr.1 ≠ pr.2 := by decide +kernel

/-- **C14 (pruning leaves no cache behind).** After `prune` every surviving structure has empty
descendant / Newick / ancestor caches and at most the trunk seeding `_level = 0` — for every heap,
without hypotheses. -/
theorem C14_prune_resets_all (h : Heap) (ms : List Nat) :
    ∀ o ∈ (h.prune ms).objs, o.id ∈ (h.prune ms).alive →
      o.desc = none ∧ o.nw = none ∧ o.anc = none ∧ (o.lvl = none ∨ (o.parent = none ∧ o.lvl = some 0)) :=
  P29c.finishPrune_resets_all _

/-- **C14 (descendants are listed once).** -/
theorem C14_descendants_nodup (h : Heap) (hwf : P17.WF h) (i : Nat) (hi : i ∈ h.alive) :
    (∀ x ∈ h.specDesc h.size [i], x ∈ h.alive) ∧ (h.specDesc h.size [i]).Nodup :=
  P29c.specDesc_alive_nodup h hwf i hi

-- non-vacuity: the witness heap satisfies the first two hypotheses of the main theorem; the third, for the witness
-- history, is `P17.h0_legal`
example : P17.WF P17.h0 ∧ P17.Sound P17.h0 := ⟨P17.h0_wf, P17.h0_sound⟩

/-- **C14 (pixel counts and peaks, every history; model `ADModel/CachePix.lean`).** Starting from any well-formed object
graph whose pixel caches are sound (in particular: empty, as after `compute` or a load), every answer of every history
of `get_npix(subtree=True)`, `get_peak(subtree=…)` queries and prunes equals what a freshly constructed dendrogram
with the same links and own pixels answers at that moment. -/
theorem C14_pix_history_sound (h : PHeap) (ops : List POp) (hwf : P33.WF h) (hs : P33.Sound h)
    (hleg : P33.LegalOps h ops) : ∀ pr ∈ P33.run h ops, pr.1 = pr.2 :=
  P33.history_sound h ops hwf hs hleg

/-- one query: the answer, and the links are untouched -/
theorem C14_get_peak (h : PHeap) (hwf : P33.WF h) (hs : P33.Sound h) (i : Nat) (hi : i ∈ h.alive) (sub : Bool) :
    let r := h.getPeak h.size i sub
    r.2 = (if sub then h.specPeakSub h.size i else h.specPeak i) ∧ P33.WF r.1 ∧ P33.Sound r.1 ∧
      ((∀ j, (r.1.get j).map (fun o => (o.parent, o.kids, o.own)) =
          (h.get j).map (fun o => (o.parent, o.kids, o.own))) ∧ r.1.alive = h.alive) :=
  ⟨(P33.getPeak_fills hwf hs hi sub).1, (P33.getPeak_fills hwf hs hi sub).2.done hwf⟩

theorem C14_get_npix (h : PHeap) (hwf : P33.WF h) (hs : P33.Sound h) (i : Nat) (hi : i ∈ h.alive) :
    let r := h.getNpix h.size i
    r.2 = some (h.specCount h.size i) ∧ P33.WF r.1 ∧ P33.Sound r.1 ∧
      ((∀ j, (r.1.get j).map (fun o => (o.parent, o.kids, o.own)) =
          (h.get j).map (fun o => (o.parent, o.kids, o.own))) ∧ r.1.alive = h.alive) :=
  ⟨(P33.getNpix_fills hwf hs hi).1, (P33.getNpix_fills hwf hs hi).2.done hwf⟩

/-- after `prune` nothing of the pixel caches survives on any structure that is still alive -/
theorem C14_pix_prune_resets_all (h : PHeap) (ms : List Nat) :
    ∀ o ∈ (h.prune ms).objs, o.id ∈ (h.prune ms).alive → o.npixTot = none ∧ o.peak = none ∧ o.peakSub = none :=
  P33.finishPrune_resets_all _

/-- the count cache would stay right even without that reset: a merge moves pixels inside a subtree -/
theorem C14_merge_keeps_count (h : PHeap) (hwf : P33.WF h) (m : Nat) (hm : m ∈ h.alive)
    (hp : (h.get m).bind (·.parent) ≠ none) :
    ∀ j ∈ (h.mergeWithParent m).alive,
      (h.mergeWithParent m).specCount (h.mergeWithParent m).size j = h.specCount h.size j :=
  P33.merge_keeps_count h hwf m hm hp

/-- **C14 / C07 (the heap-level prune refines the tree-level prune).** `P35.absF h h.size (P35.rootsOf h)` reads the
live part of the object heap as a forest of the tree model (`ADModel/Basic.lean`). Pruning on the heap — the merges
assignment by assignment (`_merge_with_parent`), then the cache reset and trunk seeding — commutes with that reading:
the result is the forest obtained by applying the tree-level `mergeInto` at the parent of each merged structure. So the
cache theorems of this file and the theorems about the pruned forest (C07) speak about the same objects. -/
theorem C14_heap_prune_refines {h : Heap} {ms : List Nat} (w : P17.WF h) (hl : P17.Legal h ms) :
    P35.absF (h.prune ms) (h.prune ms).size (P35.rootsOf (h.prune ms)) =
      ms.foldl (fun f m => P35.mergeIdL m f) (P35.absF h h.size (P35.rootsOf h)) := by
  unfold Heap.prune
  rw [P35.absF_finishPrune, P35.foldl_merge_refines w hl]

/-- one step of the caller of `_to_prune` (two-sibling rule included) is the tree model's `pruneAt` -/
theorem C14_heap_pruneAt_refines {h : Heap} (w : P17.WF h) {k p : Nat} {po : Obj} (hk : k ∈ h.alive)
    (hp : (h.get k).bind (·.parent) = some p) (hgp : h.get p = some po) :
    P35.absT ((if po.kids.length = 2 then po.kids else [k]).foldl Heap.mergeWithParent h) h.size p =
      pruneAt (P35.absT h h.size p) (P35.absT h h.size k) := by
  obtain ⟨rk, hr⟩ := w.rank
  rw [← P41.mergeList_eq hp hgp]
  exact P41.stepH_parent w hr hk hp h.size (Nat.le_add_right _ _)

/-- **C14 (heap specification = tree observables).** What the cache theorems compare answers with (`specLevel`,
`specRoot`, `specDesc`, computed from the live links) is what the tree model reports for the same structure (`rows`:
level, ancestor, descendants — the latter up to order: the code lists descendants level by level, the tree model in
prefix order, `P35` has the witness that they differ as lists). -/
theorem C14_heap_spec_is_tree_obs {h : Heap} (w : P17.WF h) (i : Nat) (hi : i ∈ h.alive) :
    (∃ row ∈ rows (P35.absF h h.size (P35.rootsOf h)), row.id = i) ∧
    ∀ row ∈ rows (P35.absF h h.size (P35.rootsOf h)), row.id = i →
      h.specLevel h.size i = some row.level ∧ h.specRoot h.size i = some row.ancestor ∧
        (h.specDesc h.size [i]).Perm row.desc ∧ row.desc = P35.descIds (P35.absT h h.size i) := by
  refine ⟨P35.rows_complete w i hi, fun row hrow hid => ?_⟩
  have ok := P35.rows_sound w row hrow
  subst hid
  exact ⟨ok.level, ok.ancestor, ok.desc, ok.desc_eq⟩

/-- **C14 (compute hands over sound caches).** A statement about `P37.GOp` histories: after any legal history of link
operations and `ancestor` queries from the empty heap (fresh leaves, branches above parentless structures, removal of
absorbed leaves; the objects carry no own pixels; see `C04_ancestor_is_root`) followed by the trunk seeding of
`_make_trunk`, the heap is well formed and its caches are sound: the hypotheses of `C14_history_sound` hold of it. The
seeding is `Heap.finishPruneOld`: that function sets `_level = 0` on the parentless live objects and does nothing else,
which is also all that `prune` did after its loop before the repair, whence its name. -/
theorem C14_compute_establishes_sound (ops : List P37.GOp) (hl : P37.LegalGrow {} ops) :
    P17.WF (ops.foldl P37.stepG {}).finishPruneOld ∧ P17.Sound (ops.foldl P37.stepG {}).finishPruneOld :=
  have ⟨w, hs, he⟩ := P37.grow_induction P37.stepG_otherEmpty {} ops P37.empty_wf P37.empty_ancSound hl
    fun _ _ hg => by cases hg
  P37.seed_sound w hs he

-- non-vacuity of the three refinement theorems above: their hypothesis holds of `P35.h1`, on which ADProofs/HeapRefine.lean evaluates both sides
example : P17.WF P35.h1 := P35.h1_wf
