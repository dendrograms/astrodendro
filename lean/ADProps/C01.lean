import ADProofs
/-!
# C01 — every above-threshold pixel is labelled exactly once; nothing else is labelled

The label map the code keeps beside the structures is a view of the same assignment, during the loop and as returned.
-/
open Tree

/-- **C01 (partition, whole run).**  For every environment (any values, ties included, any
adjacency, any criteria) and every duplicate-free processing order, after the pixel loop the
pixels of all structures are exactly the processed pixels, and no pixel occurs twice (neither in
two structures nor twice in one). -/
theorem C01_run_partition (E : Env) (order : List Nat) (hnd : order.Nodup) :
    (pixelsL (run E order)).Nodup ∧ ∀ p, p ∈ pixelsL (run E order) ↔ p ∈ order :=
  ⟨run_pixels_nodup E order hnd, mem_run_pixels E order⟩

/-- **C01 (one step).**  Processing pixel `p` adds exactly `p` to the assigned pixels. -/
theorem C01_step_adds_exactly (E : Env) (roots : List Tree) (p : Nat) :
    (pixelsL (step E roots p)).Perm (p :: pixelsL roots) := step_pixels E roots p

/-- **C01 (assigned iff above threshold, modulo dropped parentless leaves).** After the whole of
`compute` (loop, `_make_trunk`, re-labelling) a pixel belongs to some structure iff it was
processed (= is a number above the threshold, hypothesis checked per run on the recorded order)
and does not lie in one of the parentless leaves that `_make_trunk` drops (`droppedOrphans`). -/
theorem C01_assigned_iff (E : Env) (order : List Nat) (hnd : order.Nodup) (p : Nat) :
    p ∈ pixelsL (compute E order) ↔ (p ∈ order ∧ ¬ ∃ t ∈ droppedOrphans E (run E order), p ∈ t.pixels) :=
  P9.compute_assigned_iff E order hnd p

/-- **C01 (what is dropped).** A structure that `_make_trunk` drops goes as a whole (its pixels are what
`C01_assigned_iff` excludes); it is a root (an isolated region), a leaf, and fails the value-less criteria. -/
theorem C01_dropped_whole (E : Env) (order : List Nat) :
    ∀ t ∈ droppedOrphans E (run E order), t ∈ run E order ∧ t.kids = [] ∧ E.indepOrphan t = false :=
  fun t ht => (P9.dropped_mem_iff E _ t).mp ht

/-- **C01 (assigned once).** In the dendrogram `compute` returns no pixel occurs twice: every assigned pixel is
an own pixel of exactly one structure. -/
theorem C01_assigned_once (E : Env) (order : List Nat) (hnd : order.Nodup) :
    (pixelsL (compute E order)).Nodup := P9.compute_pixels_nodup E order hnd

/-- **C01 (default threshold, integer data).** The repaired default `int(min) - 1` lies strictly
below the minimum for every integer. -/
theorem C01_default_min_lt (m : Int) : defaultMinNew m < m := by unfold defaultMinNew; omega
/-- The old default (`min - 1` computed in the array's dtype) lay below the minimum exactly when `min - 1`
was representable. -/
theorem C01_default_min_old_iff (bits : Nat) (signed : Bool) (m : Int) (hb : 0 < bits)
    (hm : inRange bits signed m = true) :
    defaultMinOld bits signed m < m ↔ inRange bits signed (m - 1) = true :=
  by
  refine ⟨fun hlt => ?_, fun h => by rw [defaultMinOld, P9.wrap_id bits signed (m - 1) hb h]; omega⟩
  -- what the register holds is representable, so it is below `m` only if `m` is not the least value
  have := P9.wrap_inRange bits signed (m - 1) hb
  rw [P9.inRange_iff _ _ _ hb] at hm this ⊢
  unfold defaultMinOld at hlt
  omega
/-- At the minimum of the dtype (`uint8` 0, `int8` −128) the old default wrapped and was not below it. -/
theorem C01_default_min_old_witness : ¬ (defaultMinOld 8 false 0 < 0) ∧ ¬ (defaultMinOld 8 true (-128) < -128) :=
  ⟨by decide, by decide⟩

-- non-vacuity: on a 6-pixel row the order is duplicate-free and the loop assigns all six pixels
example : let E := envOf (fun p => [1, 10, 5, 9, 2, 8][p]!) (Grid.nbrs [6] []) []
    [1, 3, 5, 2, 4, 0].Nodup ∧ (pixelsL (run E [1, 3, 5, 2, 4, 0])).length = 6 := by decide +kernel

/-- **C01 (label map, imperative mechanism).** `Dendrogram.compute` does not search pixel lists: it keeps a label
map (`index_map[coord] = idx`, `_fill_footprint` when leaves are absorbed) and finds adjacent structures by reading
labels and following them to their root. `runL` (`ADModel/LabelMap.lean`) models exactly that; the label map it maintains
names, for every pixel, the structure whose own list contains it (`none` = −1 for everything else). -/
theorem C01_label_map_refines (E : Env) (order : List Nat) (hnd : order.Nodup) (q : Nat) :
    (runL E order).lmap q = labelOf (run E order) q := by rw [P36.runL_eq E order hnd]

/-- a pixel is labelled iff it was processed -/
theorem C01_label_map_domain (E : Env) (order : List Nat) (hnd : order.Nodup) (q : Nat) :
    (q ∉ order → (runL E order).lmap q = none) ∧ (q ∈ order → ((runL E order).lmap q).isSome = true) :=
  ⟨fun hq => by
    rw [P36.runL_eq E order hnd]
    show labelOf (run E order) q = none
    rwa [P8.labelOf_none_iff, mem_run_pixels], fun hq => by
    rw [P36.runL_eq E order hnd, Option.isSome_iff_ne_none, Ne, P8.labelOf_none_iff, mem_run_pixels]
    exact not_not_intro hq⟩

example : (runL P36.rowEnv P36.rowOrder).roots = run P36.rowEnv P36.rowOrder := by rfl

/-- **C01 (the label map `compute` returns).** After the loop the code clears the footprints of the parentless leaves
`_make_trunk` drops, re-numbers the structures by smallest pixel and writes every structure's final identifier over its
own pixels (`_fill_footprint(…, recursive=False)`). `finalLmap` (`ADProofs/FinalLabelProofs.lean`) models those writes
in the order the code performs them; the resulting map is, for every pixel, the identifier of the structure of the
returned dendrogram that owns it, so two pixels carry the same label only if the same structure owns them
(`P40.finalLmap_separates`). -/
theorem C01_final_label_map (E : Env) (order : List Nat) (hnd : order.Nodup) (q : Nat) :
    finalLmap E order q = labelOf (compute E order) q := P40.finalLmap_eq E order hnd q
/-- The returned map is `none` (−1) exactly for unprocessed pixels and pixels of dropped leaves. -/
theorem C01_final_label_none_iff (E : Env) (order : List Nat) (hnd : order.Nodup) (q : Nat) :
    finalLmap E order q = none ↔ (q ∉ order ∨ ∃ t ∈ droppedOrphans E (run E order), q ∈ t.pixels) :=
  P40.finalLmap_none_iff E order hnd q
/-- The labels in the returned map are the identifiers `0 … N−1`, all used. -/
theorem C01_final_labels_are_ids (E : Env) (order : List Nat) (hnd : order.Nodup) :
    (∀ q i, finalLmap E order q = some i → i < (preL (compute E order)).length) ∧
    (∀ i, i < (preL (compute E order)).length → ∃ q, finalLmap E order q = some i) :=
  ⟨fun q i h => List.mem_range.mp ((P30.compute_ids E order hnd).subset
      (P8.labelOf_mem_ids (P40.finalLmap_eq E order hnd q ▸ h))),
   fun i hi => by
    simp only [P40.finalLmap_eq E order hnd]
    exact P8.labelOf_surj (P9.compute_pixels_nodup E order hnd) (P30.compute_own_nonempty E order)
      ((P30.compute_ids E order hnd).symm.subset (List.mem_range.mpr hi))⟩
