import ADProofs
/-!
# C10 (part in the core library) — memoisation is transparent

The `memoize` decorator caches results per (method, instance, arguments).  `κ` is that key type,
`f` the un-memoised computation.  The algebraic part of C10 is in `ADPropsM/C10.lean`.
-/

/-- **C10 (results never depend on which other statistic objects or arguments were evaluated
before).** For every history of memoised calls, starting from any cache whose entries are right
(in particular the empty one), every call returns what the un-memoised function returns. -/
theorem C10_memo_transparent {κ ν : Type} [DecidableEq κ] (f : κ → ν) (m : Memo κ ν)
    (hm : ∀ kv ∈ m.cache, kv.2 = f kv.1) (ks : List κ) : Memo.run f m ks = ks.map f := by
  induction ks generalizing m with
  | nil => simp [Memo.run]
  | cons k ks ih =>
    simp only [Memo.run, List.map_cons]
    unfold Memo.call
    cases hfind : m.cache.find? (fun kv => kv.1 = k) with
    | some kv =>
      simp only
      have hk : kv.1 = k := by simpa using List.find?_some hfind
      rw [ih m hm, hm kv (List.mem_of_find?_eq_some hfind), hk]
    | none =>
      simp only
      rw [ih]
      intro kv hkv
      rcases List.mem_append.mp hkv with h | h
      · exact hm kv h
      · simp only [List.mem_singleton] at h; subst h; rfl
theorem C10_memo_transparent_empty {κ ν : Type} [DecidableEq κ] (f : κ → ν) (ks : List κ) :
    Memo.run f {} ks = ks.map f := C10_memo_transparent f {} (by intro kv h; simp at h) ks
