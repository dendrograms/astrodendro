import ADProofs
/-!
# C09 — save / load round trip: the textual tree encoding and the regrouping of pixels

The container libraries (astropy.io.fits, h5py) are trusted to store and return arrays, strings
and scalars (trusted base); what astrodendro itself does — writing the tree as text, parsing it
back (`parse_newick`, modelled step by step as `parseImpl`), regrouping own pixels from the
label map — is proved here.
-/
open Tree

/-- **C09 (reference parser inverts the writer)** for every forest: any shape, any identifiers
(multi-digit, even duplicates), any well-formed height texts (incl. negative). -/
theorem C09_parseDescent_print (ts : List NTree) (h : GoodL ts) : parseDescent (printForest ts) = some ts := by
  unfold parseDescent
  cases ts with
  | nil => simp [NewickPf.printForest_eq, NewickPf.joinC]
  | cons t ts =>
    rw [NewickPf.printForest_eq]
    -- the fuel `parseDescent` passes is more than the length of the text
    have hp := NewickPf.parseList_joinC (t :: ts) (by simp)
      (fun k hk => NewickPf.parseNode_print k ((NewickPf.GoodL_iff _).1 h k hk))
      (2 * (NewickPf.joinC ((t :: ts).map NewickPf.P) ++ [')', ';']).length + 2) [';']
      (by simp only [List.length_append]; omega)
    split
    · next heq =>
      exact absurd (List.append_left_eq_self.1 (List.cons.inj heq).2) (NewickPf.joinC_ne_nil _
        (List.cons_ne_nil _ _) (List.forall_mem_map.2 fun k _ => NewickPf.P_ne_nil k))
    · next rest _ heq =>
      cases heq
      rw [hp]
      rfl
    · next hno => exact (hno _ rfl).elim

/-- **C09 (the implementation's level-by-level parser inverts the writer)** for every forest with
pairwise distinct identifiers (C02) whose height texts contain no colon (`%.3f` output). -/
theorem C09_parseImpl_print (ts : List NTree) (h : GoodL ts)
    (hids : ((NewickPf.nodesL ts).map NTree.id).Nodup)
    (hcolon : ∀ n ∈ NewickPf.nodesL ts, ∀ c ∈ n.height.toList, c ≠ ':') :
    parseImpl (printForest ts) = some ts := parseImpl_print ts h hids hcolon

/-- **C09 (on what `to_newick` produces both parsers return the tree it was written from).** -/
theorem C09_newick_roundtrip (val : Nat → Int) (fb : Nat) (f : List Tree)
    (hids : ((nodes f).map Tree.id).Nodup) :
    parseImpl (toNewick val fb f) = some (toNTreeL val fb f) ∧
    parseDescent (toNewick val fb f) = some (toNTreeL val fb f) :=
  ⟨parseImpl_print _ (NewickPf.toNTreeL_good val fb f) (by rw [NewickPf.toNTreeL_nodes_ids]; exact hids)
      (fun n hn c hc => by
        obtain ⟨k, hk⟩ := NewickPf.toNTreeL_nodes_heights val fb f n hn
        exact fmt3_no_colon k fb c (hk ▸ hc)),
    C09_parseDescent_print _ (NewickPf.toNTreeL_good val fb f)⟩

/-- **C09 (the encoding is injective).** Different trees are never written as the same text. -/
theorem C09_print_injective (a b : List NTree) (ha : GoodL a) (hb : GoodL b)
    (h : printForest a = printForest b) : a = b := by
  have h1 := C09_parseDescent_print a ha
  rw [h, C09_parseDescent_print b hb] at h1
  exact (Option.some.inj h1).symm

/-- **C09 (identifiers survive decimal printing).** -/
theorem C09_id_roundtrip (n : Nat) : digitsToNat? (toString n).toList = some n := digits_roundtrip n

/-- **C09 (`%.3f` output is a well-formed height text, without colon).** -/
theorem C09_fmt3_good (k : Int) (fb : Nat) : GoodH (fmt3 k fb) ∧ ∀ c ∈ (fmt3 k fb).toList, c ≠ ':' :=
  ⟨fmt3_good k fb, fmt3_no_colon k fb⟩

/-- **C09 (per-structure pixel lists rebuilt from the label map).** For every structure the pixels
carrying its label in the saved label map are exactly its own pixels. -/
theorem C09_regroup_correct (f : List Tree) (n : Nat) (h : P8.WF f n) (t : Tree) (ht : t ∈ preL f) :
    (binOf (labelMap f n) t.id).Perm t.own := P8.binOf_perm h ht

/-- **C09 (what a save / load cycle does to the forest).** `reload` is `regroupL`: it rebuilds own pixel lists from
the label map and leaves the tree in place (that the text gives it back is the round trip above).  Identifiers,
children *and their order*, and the iteration order are preserved exactly. -/
theorem C09_reload_shape (f : List Tree) (n : Nat) :
    (preL (reload f n)).map (fun t => (t.id, t.kids.map Tree.id)) = (preL f).map (fun t => (t.id, t.kids.map Tree.id)) :=
  by
  unfold reload
  rw [P21.preL_regroupL, List.map_map]
  apply List.map_congr_left
  intro t _
  simp only [Function.comp_def, P21.regroupT_id, P21.regroupT_kids, P21.regroupL_eq_map, List.map_map]
/-- **C09 (after a save / load cycle every structure owns the same pixels, as a set).** -/
theorem C09_reload_own (f : List Tree) (n : Nat) (h : P8.WF f n) :
    ∀ k, k < (preL f).length → ((preL (reload f n)).getD k default).own.Perm ((preL f).getD k default).own :=
  by
  intro k hk
  unfold reload
  rw [P21.preL_regroupL]
  simp only [List.getD_eq_getElem?_getD, List.getElem?_map, List.getElem?_eq_getElem hk,
    Option.map_some, Option.getD_some, P21.regroupT_own]
  exact P8.binOf_perm h (List.getElem_mem hk)
/-- **C09 (a save / load cycle leaves the label map unchanged).** -/
theorem C09_reload_labelMap (f : List Tree) (n : Nat) (h : P8.WF f n) : labelMap (reload f n) n = labelMap f n :=
  List.map_congr_left fun p _ => P21.reload_labelOf f n h p
/-- **C09 (a save / load cycle leaves the hierarchy the same).** -/
theorem C09_reload_same_hierarchy (f : List Tree) (n : Nat) (h : P8.WF f n) : P10.SimL (fun p => p) f (reload f n) :=
  P21.reload_sim f n h
/-- **C09 (loading twice changes nothing more).** -/
theorem C09_reload_idempotent (f : List Tree) (n : Nat) (h : P8.WF f n) : reload (reload f n) n = reload f n :=
  by
  have e := C09_reload_labelMap f n h
  unfold reload at e ⊢
  rw [e]
  exact (P21.regroup_regroup _ _).2 f

/-- **C09 (format identification when writing).** The extension decides, case-insensitively; no
match ⇒ `none` (the caller raises `IOError`). -/
theorem C09_identify_write (name : List Char) :
    (Identify.identify name false none = some .fits ↔ Identify.fitsExts.any (Identify.endsWith (Identify.lower name)) = true) ∧
    (Identify.identify name false none = some .hdf5 ↔ Identify.hdf5Exts.any (Identify.endsWith (Identify.lower name)) = true) ∧
    (Identify.identify name false none = none ↔
      (Identify.fitsExts.any (Identify.endsWith (Identify.lower name)) = false ∧
       Identify.hdf5Exts.any (Identify.endsWith (Identify.lower name)) = false)) := by
  simpa only [Identify.isFits, Identify.isHdf5] using P14.identify_cases name false none
/-- **C09 (format identification when reading).** An existing file is recognised from its
signature, whatever its name. -/
theorem C09_identify_read (name : List Char) (h : List Nat) :
    (Identify.identify name true (some h) = some .fits ↔ h.take 30 = Identify.fitsSig) ∧
    (Identify.identify name true (some h) = some .hdf5 ↔ h.take 8 = Identify.hdf5Sig) := by
  have h' := P14.identify_cases name true (some h)
  simp only [Identify.isFits, Identify.isHdf5, beq_iff_eq] at h'
  exact ⟨h'.1, h'.2.1⟩
/-- **C09 (at most one handler recognises a file).** The two extension sets are disjoint and so
are the two signatures, so the order of the handler table is irrelevant. -/
theorem C09_identify_unique (name : List Char) (read : Bool) (head : Option (List Nat)) :
    ¬ (Identify.isFits name read head = true ∧ Identify.isHdf5 name read head = true) := P14.identify_unique name read head
/-- **C09 (an explicit format always wins).** -/
theorem C09_identify_explicit (f : Fmt) (name : List Char) (read : Bool) (head : Option (List Nat)) :
    Identify.choose (some f) name read head = some f := rfl

-- non-vacuity: a printed forest with multi-digit ids and a negative height is well formed
example : GoodL [.node 12 "-3.500" [.node 7 "1.000" [], .node 105 "0.062" []]] := by
  simp only [GoodL, GoodT, GoodH]
  decide +kernel
