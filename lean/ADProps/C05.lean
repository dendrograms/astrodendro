import ADProofs
import ADProps.C03
/-!
# C05 — leaves are exactly the independent local maxima
-/
open Tree

/-- **C05 (leaves with a parent are significant).** Every child `L` of every branch `P` passed the
significance test at the creating pixel `P.id` of its parent (temporary identifiers are creating
pixels); for a leaf this means: its peak differs from the meeting value and every criterion
holds at the meeting value. -/
theorem C05_parented_leaf_significant (E : Env) (order : List Nat) :
    ∀ P ∈ preL (run E order), ∀ L ∈ P.kids, L.kids = [] →
      L.vmax E.val ≠ E.val P.id ∧ E.indep L P.id (E.val P.id) = true :=
  ContourP.run_leaf_kid_significant E order

/-- **C05 (the meeting pixel).** The creating pixel of the parent is processed, is adjacent to the child from
outside, and is no brighter than any pixel of the child.  (`C03_contour` gives the same bound for every other
above-threshold outside neighbour of the child; that the meeting pixel is the brightest of them is not part of
either statement.  `hsym` is not needed.) -/
theorem C05_meeting_pixel (E : Env) (hsym : SymmAdj E) (order : List Nat) (hnd : order.Nodup)
    (hsorted : SortedDesc E order) :
    ∀ P ∈ preL (run E order), ∀ L ∈ P.kids,
      (∃ a ∈ L.pixels, P.id ∈ E.nbrs a ∨ a ∈ E.nbrs P.id) ∧ P.id ∉ L.pixels ∧ P.id ∈ order ∧
      (∀ x ∈ L.pixels, E.val P.id ≤ E.val x) :=
  have _ := hsym
  fun P hP L hL =>
    have ⟨⟨a, ha, hn⟩, h⟩ := ContourP.run_meeting_pixel E order hnd hsorted P hP L hL
    ⟨⟨a, ha, .inr hn⟩, h⟩

/-- **C05 (built-in criteria, unfolded).** With `min_delta = d` and `min_npix = n` among the
criteria, every leaf with a parent peaks at least `d` above the meeting value and has at least
`n` pixels. -/
theorem C05_builtin (val : Nat → Int) (nbrs : Nat → List Nat) (d : Int) (n : Nat) (cs : List Crit)
    (order : List Nat) :
    let E := envOf val nbrs (Crit.minDelta d :: Crit.minNpix n :: cs)
    ∀ P ∈ preL (run E order), ∀ L ∈ P.kids, L.kids = [] →
      d ≤ L.vmax val - val P.id ∧ n ≤ L.pixels.length := by
  intro E P hP L hL hleaf
  -- `E.indep` is `all_true` over the list: each criterion holds at the meeting value
  have h := List.all_eq_true.mp (C05_parented_leaf_significant E order P hP L hL hleaf).2
  exact ⟨of_decide_eq_true (h _ List.mem_cons_self),
    of_decide_eq_true (h _ (List.mem_cons_of_mem _ List.mem_cons_self))⟩

/-- **C05 (parentless leaves).** Every parentless leaf kept by `_make_trunk` satisfies the
value-less criteria; a root that is dropped is a leaf failing them. -/
theorem C05_orphan_leaf (E : Env) (roots : List Tree) :
    (∀ t ∈ makeTrunk E roots, t.kids = [] → E.indepOrphan t = true) ∧
    (∀ t ∈ roots, t ∉ makeTrunk E roots → t.kids = [] ∧ E.indepOrphan t = false) :=
  ⟨fun t ht hk => by simpa [hk] using ((P9.makeTrunk_mem_iff E roots t).mp ht).2,
   fun t ht hn => Decidable.not_not.mp fun h => hn ((P9.makeTrunk_mem_iff E roots t).mpr ⟨ht, h⟩)⟩

/-! ## without pruning: exactly one leaf per plateau-aware regional maximum

`P20.SamePlateau E order p q`: `q` is reachable from `p` through above-threshold pixels that all
carry the value of `p`.  `P20.RegMax E order p`: `p` is above threshold and no pixel of its
plateau has a brighter above-threshold neighbour.  No pruning: `E.indep` constantly true. -/

/-- **C05 (each leaf's peak lies in a regional maximum, and its peak pixels are one plateau).**  (`hnd` is not
needed.) -/
theorem C05_leaf_peak_regmax (E : Env) (hsym : SymmAdj E) (order : List Nat) (hnd : order.Nodup)
    (hsorted : SortedDesc E order) (hno : ∀ t p v, E.indep t p v = true) :
    (∀ t ∈ preL (run E order), t.kids = [] → ∀ p ∈ t.own, E.val p = t.vmax E.val → P20.RegMax E order p) ∧
    (∀ t ∈ preL (run E order), t.kids = [] → ∀ p ∈ t.own, ∀ q ∈ t.own, E.val p = t.vmax E.val →
        E.val q = t.vmax E.val → P20.SamePlateau E order p q) :=
  have _ := hnd
  ⟨P20.leaf_peak_regmax E hsym order hsorted, P20.leaf_peak_one_plateau E hsym order hsorted hno⟩

/-- **C05 (distinct leaves peak in distinct regional maxima).**  (`hno` is not needed.) -/
theorem C05_leaves_distinct_maxima (E : Env) (hsym : SymmAdj E) (order : List Nat) (hnd : order.Nodup)
    (hsorted : SortedDesc E order) (hno : ∀ t p v, E.indep t p v = true) :
    ∀ t ∈ preL (run E order), ∀ t' ∈ preL (run E order), t.kids = [] → t'.kids = [] → t ≠ t' →
      ∀ p ∈ t.own, ∀ q ∈ t'.own, E.val p = t.vmax E.val → E.val q = t'.vmax E.val → ¬ P20.SamePlateau E order p q :=
  have _ := hno
  fun t ht t' ht' hl _ hne p hp q hq hpk _ =>
    P20.leaves_distinct_maxima E hsym order hsorted hnd t ht t' ht' hl hne p hp q hq hpk

/-- **C05 (every regional maximum has its leaf).** Together with the two theorems above: the map
leaf ↦ plateau of its peak is a bijection between leaves and regional maxima.  (`hnd` is not needed.) -/
theorem C05_regmax_has_leaf (E : Env) (hsym : SymmAdj E) (order : List Nat) (hnd : order.Nodup)
    (hsorted : SortedDesc E order) (hno : ∀ t p v, E.indep t p v = true) :
    ∀ p, P20.RegMax E order p → ∃ t ∈ preL (run E order), t.kids = [] ∧ p ∈ t.own ∧ E.val p = t.vmax E.val :=
  have _ := hnd
  P20.regmax_has_leaf E hsym order hsorted hno
