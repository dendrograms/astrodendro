import ADProofs
/-!
# C20 — dendrogram equality

`DView.eqSpec` is the relation the property describes; `DView.eqD` is the operator as
implemented (known finding D10: it never looks at the other label map); `DView.eqIntended` is
what the code would compute with the obvious one-word correction.
-/

/-- **C20 (the specified relation, stated outright).** -/
theorem C20_spec_iff (a b : DView) : DView.eqSpec a b = true ↔
    a.shape = b.shape ∧ a.data = b.data ∧ a.minv.1 * (b.minv.2 : Int) = b.minv.1 * (a.minv.2 : Int) ∧
    (a.mind = 0 ∨ b.mind = 0 ∨ a.mind = b.mind) ∧ (a.minn = 0 ∨ b.minn = 0 ∨ a.minn = b.minn) ∧
    DView.canon a.lmap = DView.canon b.lmap := P14.eqSpec_iff a b

/-- **C20 ("same structures" means "same partition of the pixels", identifiers being naming).** -/
theorem C20_canon_iff_same_partition (l m : List (Option Nat)) :
    DView.canon l = DView.canon m ↔ P14.SamePartition l m := P14.canon_eq_iff_same_partition l m

/-- **C20 (symmetric)** — both the specified relation and the operator as implemented. -/
theorem C20_symm (a b : DView) : DView.eqSpec a b = DView.eqSpec b a ∧ DView.eqD a b = DView.eqD b a :=
  ⟨by rw [DView.eqSpec, DView.eqSpec, P14.sameData_symm, P14.sameParams_symm, BEq.comm (a := DView.canon a.lmap)],
   by simp only [DView.eqD, P14.sameData_symm a b, P14.sameParams_symm a b, beq_self_eq_true]⟩
/-- **C20 (reflexive)** — both the specified relation and the operator as implemented (so a
dendrogram equals itself and, with C09, its saved-and-loaded copy). -/
theorem C20_refl (a : DView) : DView.eqSpec a a = true ∧ DView.eqD a a = true :=
  ⟨by simp [DView.eqSpec, P14.sameData_refl, P14.sameParams_refl],
   by simp [DView.eqD, P14.sameData_refl, P14.sameParams_refl]⟩

/-- **C20 (the operator as implemented compares everything but the structures).** -/
theorem C20_impl_iff (a b : DView) : DView.eqD a b = true ↔
    a.shape = b.shape ∧ a.data = b.data ∧ a.minv.1 * (b.minv.2 : Int) = b.minv.1 * (a.minv.2 : Int) ∧
    (a.mind = 0 ∨ b.mind = 0 ∨ a.mind = b.mind) ∧ (a.minn = 0 ∨ b.minn = 0 ∨ a.minn = b.minn) := P14.eqD_iff a b
/-- **C20 (the operator as implemented accepts whatever the specified relation accepts).** -/
theorem C20_spec_implies_impl (a b : DView) : DView.eqSpec a b = true → DView.eqD a b = true := P14.eqSpec_implies_eqD a b

/-- **C20 (negation for the code as it is — known finding D10).** There are dendrograms that
partition the pixels differently and compare equal. -/
theorem C20_impl_ignores_structures : ∃ a b : DView, DView.eqD a b = true ∧ DView.canon a.lmap ≠ DView.canon b.lmap :=
  ⟨⟨[2], [some 1, some 2], (0, 1), 0, 0, [some 0, some 0]⟩,
   ⟨[2], [some 1, some 2], (0, 1), 0, 0, [some 0, some 1]⟩, by decide +kernel⟩
/-- **C20 (even the intended first-occurrence fingerprint is weaker than partition equality).** -/
theorem C20_fingerprint_weaker : ∃ l m : List (Option Nat), DView.firstOcc l = DView.firstOcc m ∧ DView.canon l ≠ DView.canon m :=
  ⟨[some 0, some 1, some 0], [some 0, some 1, some 1], by decide +kernel⟩
