import ADProofs
/-!
# C19 — viewer selections always denote the structure that was picked

The hub and what the viewers derive from it are modelled as a state machine (`ADModel/Hub.lean`);
rendering and GUI event delivery are Matplotlib's (claimed as partial).
-/
open Tree

/-- **C19 (click).** Clicking a pixel selects exactly the structure owning it (or clears the
selection when it has no owner), with its whole subtree. -/
theorem C19_click (h : Hub) (slot : Nat) (lab : Option Nat) :
    (h.click slot lab).get slot = some { ids := [lab], subtree := true } := by
  rw [Hub.click, P16.get_select, if_pos rfl]
/-- **C19 (a cleared selection shows nothing).** No line is highlighted, the contour mask is empty and
the label says so. -/
theorem C19_cleared (f : List Tree) (sub : Bool) (rest : List (Option Nat)) :
    Hub.highlighted f { ids := none :: rest, subtree := sub } = [] ∧
    Hub.maskPixels f { ids := none :: rest, subtree := sub } = [] ∧
    Hub.labelText { ids := none :: rest, subtree := sub } = "No structure selected" := ⟨rfl, rfl, rfl⟩

/-- **C19 (slots are independent).** -/
theorem C19_slots_independent (h : Hub) (slot slot' : Nat) (hne : slot' ≠ slot) (ids : List (Option Nat)) (sub : Bool) :
    (h.select slot ids sub).get slot' = h.get slot' ∧
    (h.select slot ids sub).get slot = some { ids := ids, subtree := sub } :=
  ⟨by rw [P16.get_select, if_neg (Ne.symm hne)], by rw [P16.get_select, if_pos rfl]⟩

/-- **C19 (every registered view is notified exactly once per change, with the slot).** -/
theorem C19_notify_once (h : Hub) (slot : Nat) (ids : List (Option Nat)) (sub : Bool) :
    (∀ c, c < h.ncallbacks → ((h.select slot ids sub).log.drop h.log.length).count (c, slot) = 1) ∧
    (∀ e ∈ (h.select slot ids sub).log.drop h.log.length, e.1 < h.ncallbacks ∧ e.2 = slot) :=
  ⟨fun c hc => by rw [P16.select_log_drop, P16.count_range_map, if_pos hc], fun e he => by
    rw [P16.select_log_drop] at he
    obtain ⟨c, hc, rfl⟩ := List.mem_map.mp he
    exact ⟨List.mem_range.mp hc, rfl⟩⟩

/-- **C19 (subtree selection highlights the structure and all its descendants; the contour mask
is its region).** -/
theorem C19_highlight_subtree (f : List Tree) (t : Tree) (ht : t ∈ preL f) (hids : ((preL f).map Tree.id).Nodup)
    (rest : List (Option Nat)) :
    Hub.highlighted f { ids := some t.id :: rest, subtree := true } = (preL t.kids).map Tree.id ++ [t.id] ∧
    (Hub.maskPixels f { ids := some t.id :: rest, subtree := true }).Perm t.pixels :=
  have hfind := List.find?_key_of_mem Tree.id hids ht
  ⟨by simp [Hub.highlighted, Hub.withDescendants, nodes, hfind], by
    simp only [Hub.maskPixels, nodes, hfind]
    exact sortNat_isSort.perm _⟩

/-- **C19 (lasso).** A lasso selects the structures of the catalog rows inside it through the
`_idx` column (identifiers need not be contiguous), without subtree. -/
theorem C19_lasso (h : Hub) (slot : Nat) (rowIds rows : List Nat) (hne : rows ≠ []) :
    (h.lasso slot rowIds rows).get slot = some { ids := rows.map (fun r => some (rowIds.getD r 0)), subtree := false } := by
  rw [Hub.lasso, P16.get_select, if_pos rfl]
  cases rows with
  | nil => exact absurd rfl hne
  | cons r rs => simp
/-- **C19 (the scatter points highlighted for a lasso selection are exactly the lassoed rows).** -/
theorem C19_lasso_rows (f : List Tree) (rowIds : List Nat) (hnd : rowIds.Nodup) (rows : List Nat)
    (hr : ∀ r ∈ rows, r < rowIds.length) (hne : rows ≠ []) :
    Hub.scatterRows f rowIds { ids := rows.map (fun r => some (rowIds.getD r 0)), subtree := false } = rows := by
  have hh : Hub.highlighted f { ids := rows.map (fun r => some (rowIds.getD r 0)), subtree := false } =
      rows.map (fun r => rowIds.getD r 0) := by
    cases rows with
    | nil => exact absurd rfl hne
    | cons r rs => simp [Hub.highlighted, List.filterMap_map]
  rw [Hub.scatterRows, hh]
  exact P16.scatter_filterMap rowIds hnd rows hr
/-- **C19 (an empty lasso clears the selection).** -/
theorem C19_lasso_empty (h : Hub) (slot : Nat) (rowIds : List Nat) :
    (h.lasso slot rowIds []).get slot = some { ids := [none], subtree := false } := by
  rw [Hub.lasso, P16.get_select, if_pos rfl]
  simp

/-- **C19 (picking a dendrogram line selects a structure that line was drawn for).** `ls` maps
line indices to structures (the `structures` list of the collection), `ind` are the picked
lines; the handler takes a picked line whose structure has the highest peak (the first such:
`P29b.pick_first_among_ties`). -/
theorem C19_pick (ls : List Nat) (peak : Nat → Int) (ind : List Nat) (s : Nat)
    (h : Hub.pickLine ls peak ind = some s) :
    (∃ i ∈ ind, s = ls.getD i 0) ∧ (∀ i ∈ ind, peak (ls.getD i 0) ≤ peak s) := by
  have ⟨hk, hs, hmax, _⟩ := P29b.pickLine_spec (P29b.pickLine_eq ▸ h)
  exact ⟨⟨_, List.getD_mem hk 0, hs⟩, hmax⟩
