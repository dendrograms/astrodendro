import ADModel.IO
import ADProofs.AssignedProofs
import ADProofs.Contour
import ADProofs.IndexProofs
import ADProofs.PruneProofs
/-!
# ADProofs.ReachProofs — the dendrogram `compute` returns is well formed; the inductive `Reach` (namespace `P30`)

The invariants of the pixel loop (`run`) hold for the dendrogram that `compute` returns (after
`_make_trunk` and re-labelling); `prune` (`ADProofs.PruneAncestors`) and a save / load cycle
(`reload`, `ADProofs.IOProofs`) preserve them.  Hence the accessor theorems, which assume `P8.WF`,
apply to every `Reach E order n f` (`C02_reachable_wellformed`).  `makeTrunk_good` is what
`C02_final_ids` assumes.
-/
open Tree

namespace P30

theorem mem_preL_compute {E : Env} {order : List Nat} {t : Tree} (h : t ∈ preL (compute E order)) :
    ∃ s ∈ preL (run E order), t = mapIds (finalId (makeTrunk E (run E order))) s := by
  rw [compute, relabel, (P9.pre_mapIds _).2] at h
  obtain ⟨s, hs, e⟩ := List.mem_map.mp h
  exact ⟨s, makeTrunk_nodes_subset E _ s hs, e.symm⟩

theorem makeTrunk_good (E : Env) (order : List Nat) (hnd : order.Nodup) :
    GoodForest (makeTrunk E (run E order)) :=
  ⟨trunk_ids_nodup _ _ (run_ids_nodup E order hnd),
    fun t ht => run_own_nonempty E order t (makeTrunk_nodes_subset E _ t ht),
    trunk_pixels_nodup _ _ (run_pixels_nodup E order hnd)⟩

theorem compute_ids (E : Env) (order : List Nat) (hnd : order.Nodup) :
    ((Tree.preL (compute E order)).map Tree.id).Perm
      (List.range (Tree.preL (compute E order)).length) := by
  have hl : (preL (compute E order)).length = (preL (makeTrunk E (run E order))).length := by
    rw [compute, relabel, (P9.pre_mapIds _).2, List.length_map]
  exact hl ▸ relabel_ids_perm _ (makeTrunk_good E order hnd)

theorem compute_idsNodup (E : Env) (order : List Nat) (hnd : order.Nodup) :
    IdsNodup (compute E order) :=
  (compute_ids E order hnd).nodup_iff.mpr List.nodup_range

theorem compute_wf (E : Env) (order : List Nat) (hnd : order.Nodup) (n : Nat)
    (hn : ∀ p ∈ order, p < n) : P8.WF (compute E order) n :=
  ⟨compute_idsNodup E order hnd, P9.compute_pixels_nodup E order hnd,
   fun p hp => hn p ((P9.compute_assigned_iff E order hnd p).mp hp).1⟩

theorem compute_arity (E : Env) (order : List Nat) :
    ∀ t ∈ Tree.preL (compute E order), PArity t := by
  intro t ht
  obtain ⟨s, hs, rfl⟩ := mem_preL_compute ht
  rw [PArity, P9.kids_mapIds, P9.mapIdsL_eq_map, List.map_eq_nil_iff, List.length_map]
  exact run_arity E order s hs

theorem compute_own_nonempty (E : Env) (order : List Nat) :
    ∀ t ∈ Tree.preL (compute E order), t.own ≠ [] := by
  intro t ht
  obtain ⟨s, hs, rfl⟩ := mem_preL_compute ht
  rw [P9.own_mapIds]
  exact run_own_nonempty E order s hs

/-- the dendrograms obtainable from `compute E order` by `prune` calls (arbitrary criteria) and
save / load cycles -/
inductive Reach (E : Env) (order : List Nat) (n : Nat) : List Tree → Prop
  | base : Reach E order n (_root_.compute E order)
  | pruneStep (ic : Tree → Tree → Bool) (io : Tree → Bool) (f : List Tree) :
      Reach E order n f → Reach E order n (_root_.prune ic io f)
  | reloadStep (f : List Tree) : Reach E order n f → Reach E order n (_root_.reload f n)

end P30
