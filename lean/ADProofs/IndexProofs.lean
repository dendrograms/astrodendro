import ADModel.Obs
import ADProofs.Basic
import ADProofs.OrderChecks
/-!
# ADProofs.IndexProofs — accessors agree with the data and the label map (C06), label-map
correctness (C01)

Where no pixel is owned twice the label of a pixel names its one owner (`labelOf_some_iff`).  Hence the bin of an
identifier (the pixels carrying it in the label map) is the owner's own list, ascending (`binOf_eq`), and the tree index,
which concatenates the bins in prefix order, holds the bins of a subtree in one stretch that begins at the structure's
offset (`tiIndex_split`).  `firstMaxBy_spec`: Python's `max(…, key=…)`, with which `get_peak` compares the peaks of the
children, returns an element with the largest key.
-/
open Tree

namespace P8

/-- standing hypotheses for a forest over `n` pixels -/
def WF (f : List Tree) (n : Nat) : Prop :=
  ((Tree.preL f).map Tree.id).Nodup ∧ (Tree.pixelsL f).Nodup ∧ (∀ p ∈ Tree.pixelsL f, p < n)

def AllOwnNonempty (t : Tree) : Prop := ∀ s ∈ Tree.pre t, s.own ≠ []

theorem pixelsL_perm_own (f : List Tree) :
    (Tree.pixelsL f).Perm ((Tree.preL f).flatMap Tree.own) := by
  rw [pixelsL_eq_own f]

theorem labelOf_some_iff {f : List Tree} (hpx : (Tree.pixelsL f).Nodup) {p i : Nat} :
    labelOf f p = some i ↔ ∃ t ∈ Tree.preL f, t.id = i ∧ p ∈ t.own := by
  unfold labelOf nodes
  constructor
  · intro hl
    obtain ⟨t, hf, rfl⟩ := Option.map_eq_some_iff.mp hl
    exact ⟨t, List.mem_of_find?_eq_some hf, rfl, by simpa using List.find?_some hf⟩
  · rintro ⟨t, ht, rfl, hp⟩
    cases hf : (preL f).find? (fun t => t.own.contains p) with
    | none => exact absurd (List.find?_eq_none.mp hf t ht) (by simpa using hp)
    | some s =>
      -- the first structure owning `p` is the only one
      rw [List.eq_of_nodup_flatMap (pixelsL_eq_own f ▸ hpx) (List.mem_of_find?_eq_some hf) ht
        (by simpa using List.find?_some hf) hp]
      rfl

theorem labelOf_mem_ids {f : List Tree} {p i : Nat} (h : labelOf f p = some i) :
    i ∈ (Tree.preL f).map Tree.id := by
  obtain ⟨t, ht, rfl⟩ := Option.map_eq_some_iff.mp h
  exact List.mem_map_of_mem (List.mem_of_find?_eq_some ht)

theorem labelOf_surj {f : List Tree} (hpx : (Tree.pixelsL f).Nodup) (hne : ∀ t ∈ Tree.preL f, t.own ≠ [])
    {i : Nat} (hi : i ∈ (Tree.preL f).map Tree.id) : ∃ p, labelOf f p = some i := by
  obtain ⟨t, ht, rfl⟩ := List.mem_map.mp hi
  obtain ⟨p, hp⟩ := List.exists_mem_of_ne_nil _ (hne t ht)
  exact ⟨p, (labelOf_some_iff hpx).mpr ⟨t, ht, rfl, hp⟩⟩

theorem labelOf_none_iff (f : List Tree) (p : Nat) :
    labelOf f p = none ↔ p ∉ Tree.pixelsL f := by
  rw [mem_pixelsL_iff]
  simp [labelOf, nodes, List.find?_eq_none]

/-- `F` rebuilds the forest structure by structure, renaming identifiers by `g` (re-numbering: `g = finalId`;
loading: `g = id`). -/
theorem labelOf_map {f f' : List Tree} {F : Tree → Tree} {g : Nat → Nat} {q : Nat}
    (hpre : preL f' = (preL f).map F)
    (hF : ∀ t ∈ preL f, (F t).id = g t.id ∧ (q ∈ (F t).own ↔ q ∈ t.own)) :
    labelOf f' q = (labelOf f q).map g := by
  unfold labelOf nodes
  rw [hpre]
  generalize preL f = L at hF
  induction L with
  | nil => rfl
  | cons a L ih =>
    obtain ⟨hid, hown⟩ := hF a List.mem_cons_self
    have hc : (F a).own.contains q = a.own.contains q := by
      rw [Bool.eq_iff_iff, List.contains_iff_mem, List.contains_iff_mem, hown]
    rw [List.map_cons, List.find?_cons, List.find?_cons, hc]
    cases a.own.contains q
    · exact ih fun t ht => hF t (List.mem_cons_of_mem _ ht)
    · exact congrArg some hid

theorem binOf_labelMap (f : List Tree) (n i : Nat) :
    binOf (labelMap f n) i = (List.range n).filter (fun p => labelOf f p == some i) := by
  simp only [binOf, labelMap, List.length_map, List.length_range]
  refine List.filter_congr fun p hp => ?_
  simp [List.getD_eq_getElem?_getD, List.mem_range.mp hp]

/-- ascending: `_slow_reader` visits the pixels in C order -/
theorem binOf_eq {f : List Tree} {n : Nat} (h : WF f n) {t : Tree} (ht : t ∈ Tree.preL f) :
    binOf (labelMap f n) t.id = sortNat t.own := by
  have hown : t.own.Nodup :=
    (List.sublist_flatten_of_mem (List.mem_map_of_mem ht)).nodup
      (by rw [← List.flatMap_def, ← pixelsL_eq_own]; exact h.2.1)
  rw [binOf_labelMap]
  -- two strictly ascending lists with the same members
  refine List.eq_of_pairwise_of_mem_iff (List.pairwise_lt_range.filter _) (sortNat_strict hown)
    (fun _ _ => Nat.lt_asymm) fun p => ?_
  rw [(sortNat_isSort.perm t.own).mem_iff, List.mem_filter, List.mem_range, beq_iff_eq,
    labelOf_some_iff h.2.1]
  constructor
  · rintro ⟨_, s, hs, hid, hp⟩
    rwa [← List.eq_of_nodup_map h.1 hs ht hid]
  · exact fun hp => ⟨h.2.2 p (mem_pixelsL_iff.mpr ⟨t, ht, hp⟩), t, ht, rfl, hp⟩

theorem binOf_perm {f : List Tree} {n : Nat} (h : WF f n) {t : Tree} (ht : t ∈ Tree.preL f) :
    (binOf (labelMap f n) t.id).Perm t.own :=
  binOf_eq h ht ▸ sortNat_isSort.perm t.own

theorem tiSubCt_eq_length (lm : List (Option Nat)) :
    (∀ t : Tree, tiSubCt lm t = ((Tree.pre t).flatMap (fun s => binOf lm s.id)).length) ∧
    (∀ f : List Tree, tiSubCtL lm f = ((Tree.preL f).flatMap (fun s => binOf lm s.id)).length) := by
  apply Tree.forest_induction
  · intro i o ks ih
    simp only [tiSubCt, pre, List.flatMap_cons, List.length_append]; rw [ih]; rfl
  · simp [tiSubCtL, preL]
  · intro t ts iht ihts
    simp only [tiSubCtL, preL, List.flatMap_append, List.length_append]; rw [iht, ihts]

theorem bins_pre_perm (f : List Tree) (n : Nat) (h : WF f n) (t : Tree) (ht : t ∈ Tree.preL f) :
    ((Tree.pre t).flatMap (fun s => binOf (labelMap f n) s.id)).Perm t.pixels := by
  rw [pixels_eq_own t]
  exact List.Perm.flatMap_left' _ fun s hs => binOf_perm h (pre_subset_preL ht s hs)

theorem tiIndex_split (lm : List (Option Nat)) (f : List Tree) (hid : ((Tree.preL f).map Tree.id).Nodup)
    (t : Tree) (ht : t ∈ Tree.preL f) :
    ∃ rest, (tiIndex lm f).drop (tiOffset lm f t.id) =
      (Tree.pre t).flatMap (fun s => binOf lm s.id) ++ rest := by
  obtain ⟨l1, l3, e⟩ := preL_infix ht
  have hne : ∀ s ∈ l1, (s.id != t.id) = true := by
    intro s hs
    rw [← e, pre_eq t] at hid
    simp only [List.map_append, List.map_cons, List.append_assoc] at hid
    have := (List.nodup_append.mp hid).2.2 s.id (List.mem_map_of_mem hs) t.id (by simp)
    simpa using this
  have htw : (Tree.preL f).takeWhile (fun s => s.id != t.id) = l1 := by
    rw [← e, List.append_assoc, List.takeWhile_append_of_pos hne, pre_eq t]
    simp
  refine ⟨l3.flatMap (fun s => binOf lm s.id), ?_⟩
  unfold tiOffset tiIndex nodes
  rw [htw, ← List.sum_eq_foldl, ← List.length_flatMap, ← e]
  simp only [List.flatMap_append, List.append_assoc]
  exact List.drop_left

theorem firstMaxBy_spec {α} (key : α → Int) (l : List α) (c : α) (h : firstMaxBy key l = some c) :
    c ∈ l ∧ ∀ y ∈ l, key y ≤ key c := by
  cases l with
  | nil => cases h
  | cons x xs =>
    cases h
    induction xs using List.snoc_induction with
    | nil => simp
    | snoc xs a ih =>
      rw [List.foldl_append, List.foldl_cons, List.foldl_nil, ← List.cons_append]
      generalize xs.foldl _ x = m at ih ⊢
      -- the running maximum `m` gives way only to a strictly larger element
      simp only [List.mem_append, List.mem_singleton, or_imp, forall_and, forall_eq]
      split
      next h => exact ⟨.inr rfl, fun y hy => Int.le_trans (ih.2 y hy) (Int.le_of_lt h), Int.le_refl _⟩
      next h => exact ⟨.inl ih.1, ih.2, Int.not_lt.mp h⟩

theorem peakSubL_eq_map (val : Nat → Int) (ks : List Tree) :
    peakSubL val ks = ks.map (peakSub val) := by
  induction ks with
  | nil => simp [peakSubL]
  | cons k ks ih => simp [peakSubL, ih]

end P8
