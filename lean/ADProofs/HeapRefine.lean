import ADModel.Obs
import ADProofs.CacheProofs
import ADProofs.Basic

/-!
# HeapRefine (P35): the object heap read as a forest, and `_merge_with_parent` on it

`absT h fuel i` follows the `kids` links of the object heap (`ADModel/Cache.lean`) below object `i` and returns a
`Tree` (`ADModel/Basic.lean`).  It reads an object through its own pixels and its child list only (`P42.vw`), so two
heaps that show the same view on a sub-tree have the same tree there; under `WF` fuel `h.size` is enough.

`mergeWithParent m` changes the view at the parent `p` of `m` only (`P41.Local`): at `p` it is `mergeInto`, a sub-tree
without `p` is unchanged, and in every other tree the sub-tree at `p` is replaced (`Local.absT_map`).

What the cache theorems compare answers with is what the tree model reports for the abstracted forest: `specDesc` is a
permutation of the prefix-order descendants (equality is false, see the `example`), `specLevel` and `specRoot` are
`Row.level` and `Row.ancestor` in `rows`.
-/

namespace Heap

/-- the term that `Heap.fOwn` of ADModel/HeapPrim.lean unfolds to -/
def ownOf (h : Heap) (i : Nat) : List Nat := ((h.get i).map (·.own)).getD []

end Heap

namespace P42

/-- all that `absT` reads of an object -/
def vw (h : Heap) (i : Nat) : Option (List Nat × List Nat) := (h.get i).map (fun o => (o.own, o.kids))

theorem ownOf_eq_vw (h : Heap) (i : Nat) : h.ownOf i = ((vw h i).map (·.1)).getD [] := by
  unfold Heap.ownOf vw; cases h.get i <;> rfl

theorem kidsOf_eq_vw (h : Heap) (i : Nat) : P41.kidsOf h i = ((vw h i).map (·.2)).getD [] := by
  unfold P41.kidsOf vw; cases h.get i <;> rfl

theorem isSome_vw (h : Heap) (i : Nat) : (vw h i).isSome = (h.get i).isSome := by
  unfold vw; cases h.get i <;> rfl

end P42

namespace P35
open Heap Tree P17

def absT (h : Heap) : Nat → Nat → Tree
  | 0, i => .node i [] []
  | fuel + 1, i =>
    match h.get i with
    | none => .node i [] []
    | some o => .node i o.own (o.kids.map (absT h fuel))

def absF (h : Heap) (fuel : Nat) (roots : List Nat) : List Tree := roots.map (absT h fuel)

/-- the trunk, in the order of the alive list -/
def rootsOf (h : Heap) : List Nat :=
  h.alive.filter fun i => ((h.get i).bind (·.parent)).isNone

theorem mem_rootsOf {h : Heap} {r : Nat} :
    r ∈ rootsOf h ↔ r ∈ h.alive ∧ (h.get r).bind (·.parent) = none := by
  simp [rootsOf, List.mem_filter]

theorem rootsOf_same {h h' : Heap} (s : SameLinks h h') : rootsOf h' = rootsOf h := by
  unfold rootsOf
  rw [s.alive]
  apply List.filter_congr
  intro x _
  rw [parent_same s]

@[simp] theorem absT_id (h : Heap) (n i : Nat) : (absT h n i).id = i := by
  cases n with
  | zero => rfl
  | succ n => unfold absT; split <;> rfl

theorem absT_zero (h : Heap) (i : Nat) : absT h 0 i = .node i [] [] := rfl

theorem absT_succ (h : Heap) (n i : Nat) :
    absT h (n + 1) i = .node i (h.ownOf i) ((P41.kidsOf h i).map (absT h n)) := by
  unfold Heap.ownOf P41.kidsOf
  cases hg : h.get i <;> simp only [absT, hg] <;> rfl

theorem absT_succ_some {h : Heap} {i : Nat} {o : Obj} (n : Nat) (hg : h.get i = some o) :
    absT h (n + 1) i = .node i o.own (o.kids.map (absT h n)) := by
  simp only [absT, hg]

/-- `y` lies in the sub-tree of `x` along `kids` links (reflexive) -/
inductive Down (h : Heap) : Nat → Nat → Prop
  | refl (x : Nat) : Down h x x
  | step {x o c y} : h.get x = some o → c ∈ o.kids → Down h c y → Down h x y

theorem Down.kid {h : Heap} {x c y : Nat} (hc : c ∈ P41.kidsOf h x) (d : Down h c y) : Down h x y :=
  let ⟨_, hg, hc⟩ := P41.mem_kidsOf.1 hc
  .step hg hc d

theorem absT_congr_below {h h' : Heap} (n : Nat) {x : Nat} (hv : ∀ y, Down h x y → P42.vw h' y = P42.vw h y) :
    absT h' n x = absT h n x := by
  induction n generalizing x with
  | zero => rfl
  | succ n ih =>
    rw [absT_succ, absT_succ, P42.ownOf_eq_vw, P42.kidsOf_eq_vw, hv x (.refl x), ← P42.ownOf_eq_vw,
      ← P42.kidsOf_eq_vw]
    exact congrArg _ (List.map_congr_left fun c hc => ih fun y d => hv y (.kid hc d))

theorem absT_congr {h h' : Heap} (hl : ∀ i, P42.vw h' i = P42.vw h i) (n i : Nat) : absT h' n i = absT h n i :=
  absT_congr_below n fun y _ => hl y

theorem absT_stable {h : Heap} (w : WF h) {rk} (hr : RankOK h rk) (n m i : Nat) (hi : i ∈ h.alive)
    (hn : h.size ≤ n + rk i) (hm : h.size ≤ m + rk i) : absT h n i = absT h m i :=
  w.links.fuel_stable hr (absT h) (fun i o f => .node i o.own (o.kids.map f))
    (fun n _ _ hg => absT_succ_some n hg) (fun _ _ _ _ _ hfg => congrArg _ (List.map_congr_left hfg))
    n i hi hn m hm

theorem absT_unfold_of_le {h : Heap} (w : WF h) {rk} (hr : RankOK h rk) {n x : Nat} {o : Obj} (hx : x ∈ h.alive)
    (hg : h.get x = some o) (hn : h.size ≤ n + rk x) : absT h n x = .node x o.own (o.kids.map (absT h n)) := by
  rw [absT_stable w hr n (n + 1) x hx hn (by omega), absT_succ_some n hg]

theorem absT_of_le {h : Heap} (w : WF h) {n i : Nat} (hn : h.size ≤ n) (hi : i ∈ h.alive) :
    absT h n i = absT h h.size i := by
  obtain ⟨rk, hr⟩ := w.rank
  exact absT_stable w hr _ _ i hi (Nat.le_add_right_of_le hn) (Nat.le_add_right _ _)

theorem absT_unfold {h : Heap} (w : WF h) {x : Nat} {o : Obj} (hx : x ∈ h.alive) (hg : h.get x = some o) :
    absT h h.size x = .node x o.own (o.kids.map (absT h h.size)) := by
  rw [← absT_of_le w (Nat.le_succ _) hx, absT_succ_some _ hg]

theorem Down.alive_rank {h : Heap} (w : WF h) {rk} (hr : RankOK h rk) {x y : Nat} (d : Down h x y)
    (hx : x ∈ h.alive) : y ∈ h.alive ∧ rk x ≤ rk y := by
  induction d with
  | refl x => exact ⟨hx, Nat.le_refl _⟩
  | step hg hc _ ih =>
    obtain ⟨hca, hlt⟩ := w.kid_rank hr hx hg hc
    have := ih hca
    exact ⟨this.1, by omega⟩

theorem Down.reach {h : Heap} (w : WF h) {x y : Nat} (d : Down h x y) (hx : x ∈ h.alive) :
    x = y ∨ Reach h y x := by
  induction d with
  | refl x => exact .inl rfl
  | step hg hc _ ih =>
    obtain ⟨hca, co, hgc, hcp⟩ := w.kids_ok _ hx _ hg _ hc
    rcases ih hca with e | r
    · subst e; exact .inr (.one hgc hcp)
    · exact .inr (r.trans (.one hgc hcp))

theorem Down.snoc {h : Heap} {a b c : Nat} {o : Obj} (d : Down h a b) (hg : h.get b = some o)
    (hc : c ∈ o.kids) : Down h a c := by
  induction d with
  | refl x => exact .step hg hc (.refl _)
  | step hg' hc' _ ih => exact .step hg' hc' (ih hg)

theorem reach_down {h : Heap} (w : WF h) {x y : Nat} (r : Reach h y x) (hy : y ∈ h.alive) : Down h x y := by
  induction r with
  | one hg hp =>
    obtain ⟨_, po, hgp, hk⟩ := w.parent_ok _ hy _ hg _ hp
    exact .step hgp hk (.refl _)
  | step hg hp _ ih =>
    obtain ⟨hpa, po, hgp, hk⟩ := w.parent_ok _ hy _ hg _ hp
    exact (ih hpa).snoc hgp hk

theorem not_down_of_reach {h : Heap} (w : WF h) {x p : Nat} (r : Reach h x p) (hx : x ∈ h.alive) :
    ¬ Down h x p := fun d => by
  obtain ⟨rk, hr⟩ := w.rank
  have := (r.alive_rank w hr hx).2
  have := (d.alive_rank w hr hx).2
  omega

theorem not_down_parent {h : Heap} (w : WF h) {x q : Nat} (hx : x ∈ h.alive) (hp : P41.parentOf h x = some q) :
    ¬ Down h x q :=
  have ⟨_, hg, ho⟩ := Option.bind_eq_some_iff.1 hp
  not_down_of_reach w (.one hg ho) hx

theorem reach_first {h : Heap} {k c a : Nat} {ko : Obj} (r : Reach h k c) (hg : h.get k = some ko)
    (hp : ko.parent = some a) : c = a ∨ Reach h a c := by
  cases r with
  | one hg' hp' => rw [hg] at hg'; cases hg'; rw [hp] at hp'; cases hp'; exact .inl rfl
  | step hg' hp' t' => rw [hg] at hg'; cases hg'; rw [hp] at hp'; cases hp'; exact .inr t'

theorem reach_linear {h : Heap} {y a b : Nat} (r : Reach h y a) (t : Reach h y b) :
    a = b ∨ Reach h a b ∨ Reach h b a := by
  induction r generalizing b with
  | one hg hp => exact (reach_first t hg hp).imp Eq.symm .inl
  | step hg hp r' ih =>
    rcases reach_first t hg hp with rfl | t'
    · exact .inr (.inr r')
    · exact ih t'

theorem Down.linear {h : Heap} (w : WF h) {a b y : Nat} (ha : a ∈ h.alive) (hb : b ∈ h.alive)
    (da : Down h a y) (db : Down h b y) : Down h a b ∨ Down h b a := by
  rcases da.reach w ha with rfl | ra
  · exact .inr db
  rcases db.reach w hb with rfl | rb
  · exact .inl da
  rcases reach_linear ra rb with rfl | r | r
  · exact .inl (.refl _)
  · exact .inr (reach_down w r ha)
  · exact .inl (reach_down w r hb)

theorem kid_parentOf {h : Heap} (w : WF h) {x c : Nat} {o : Obj} (hx : x ∈ h.alive) (hg : h.get x = some o)
    (hc : c ∈ o.kids) : c ∈ h.alive ∧ P41.parentOf h c = some x :=
  have ⟨hca, _, hgc, hcp⟩ := w.kids_ok x hx o hg c hc
  ⟨hca, (P41.parentOf_eq hgc).trans hcp⟩

theorem Down.up {h : Heap} (w : WF h) {x y : Nat} (d : Down h x y) (hx : x ∈ h.alive) :
    x = y ∨ ∃ q, P41.parentOf h y = some q ∧ Down h x q := by
  induction d with
  | refl x => exact .inl rfl
  | @step x o c y hg hc _ ih =>
    obtain ⟨hca, hcx⟩ := kid_parentOf w hx hg hc
    rcases ih hca with rfl | ⟨q, hq, dq⟩
    · exact .inr ⟨x, hcx, .refl x⟩
    · exact .inr ⟨q, hq, .step hg hc dq⟩

theorem not_down_of_noparent {h : Heap} (w : WF h) {x r : Nat} (hx : x ∈ h.alive) (hxr : x ≠ r)
    (hr : P41.parentOf h r = none) : ¬ Down h x r := fun d =>
  (d.up w hx).elim hxr fun ⟨q, hq, _⟩ => by rw [hr] at hq; cases hq

/-- `hp` covers the children of one object and the trunk objects (both sides `none`).  Neither lies below the other, or
    its own parent would lie below it. -/
theorem Down.disjoint {h : Heap} (w : WF h) {a b y : Nat} (ha : a ∈ h.alive) (hb : b ∈ h.alive) (hab : a ≠ b)
    (hp : P41.parentOf h a = P41.parentOf h b) (da : Down h a y) (db : Down h b y) : False := by
  have key : ∀ {a b}, a ∈ h.alive → a ≠ b → P41.parentOf h a = P41.parentOf h b → ¬ Down h a b := by
    intro a b ha hab hp d
    obtain e | ⟨q, hq, dq⟩ := d.up w ha
    · exact hab e
    · exact not_down_parent w ha (hp.trans hq) dq
  exact (Down.linear w ha hb da db).elim (key ha hab hp) (key hb (Ne.symm hab) hp.symm)

end P35

namespace P41
open Heap Tree P17 P35

/-- The body is `P42.vw h' x = P42.vw h x` unfolded, so a hypothesis stated with `P42.vw` is a `Local` as it stands
    (`P42.Spec.of_view` passes one to `Local.unchanged`). -/
def Local (h h' : Heap) (p : Nat) : Prop :=
  ∀ x, x ≠ p → (h'.get x).map (fun o => (o.own, o.kids)) = (h.get x).map (fun o => (o.own, o.kids))

theorem Local.refl (h : Heap) (p : Nat) : Local h h p := fun _ _ => rfl

theorem Local.trans {h h' h'' : Heap} {p : Nat} (a : Local h h' p) (b : Local h' h'' p) : Local h h'' p :=
  fun x hx => (b x hx).trans (a x hx)

theorem Local.unchanged {h h' : Heap} {p : Nat} (l : Local h h' p) (n x : Nat) (hx : ¬ Down h x p) :
    absT h' n x = absT h n x :=
  absT_congr_below n fun y d => l y fun e => hx (e ▸ d)

theorem Local.step {h h' : Heap} {p : Nat} (l : Local h h' p) (n : Nat) {x : Nat} (hx : x ≠ p) {o : Obj}
    (hg : h.get x = some o) : absT h' (n + 1) x = .node x o.own (o.kids.map (absT h' n)) := by
  have e : P42.vw h' x = some (o.own, o.kids) := (l x hx).trans (by rw [hg]; rfl)
  rw [absT_succ, P42.ownOf_eq_vw, P42.kidsOf_eq_vw, e]; rfl

theorem Local.context {h h' : Heap} {p : Nat} (l : Local h h' p) (w : WF h) (n : Nat) {x c : Nat} {o : Obj}
    {dn rs : List Nat} (hx : x ∈ h.alive) (hg : h.get x = some o) (hks : o.kids = dn ++ c :: rs)
    (hcp : Down h c p) :
    absT h' (n + 1) x = .node x o.own (dn.map (absT h n) ++ absT h' n c :: rs.map (absT h n)) := by
  have hc : c ∈ o.kids := by simp [hks]
  obtain ⟨hca, hcx⟩ := kid_parentOf w hx hg hc
  rw [l.step n (fun e => by subst e; exact not_down_parent w hca hcx hcp) hg]
  congr 1
  have hnd := w.kids_nodup x hx o hg
  rw [hks] at hnd ⊢
  exact List.map_update_one hnd fun k hk hkc => l.unchanged n k fun d =>
    have ⟨hka, hkx⟩ := kid_parentOf w hx hg (hks ▸ hk)
    Down.disjoint w hka hca hkc (hkx.trans hcx.symm) d hcp

/-- a change local to `p` acts on the abstraction of every alive object as any tree function `F` that commutes
    with the nodes other than `p` and is right at `p` -/
theorem Local.absT_map {h h' : Heap} {p : Nat} (l : Local h h' p) (w : WF h) {rk} (hr : RankOK h rk)
    (F : Tree → Tree)
    (hF : ∀ x o n, x ∈ h.alive → h.get x = some o → x ≠ p →
      F (.node x o.own (o.kids.map (absT h n))) = .node x o.own ((o.kids.map (absT h n)).map F))
    (hp : ∀ n, p ∈ h.alive → h.size ≤ n + rk p → absT h' n p = F (absT h n p)) :
    ∀ n x, x ∈ h.alive → h.size ≤ n + rk x → absT h' n x = F (absT h n x) := by
  refine w.down_induction hr fun n x o hx hg hn ih => ?_
  by_cases hxp : x = p
  · subst hxp; exact hp _ hx hn
  · rw [l.step n hxp hg, absT_succ_some n hg, hF x o n hx hg hxp, List.map_map]
    exact congrArg _ (List.map_congr_left fun c hc => (ih c hc).2.2)

theorem local_merge {h : Heap} {m p : Nat} (hp : parentOf h m = some p) : Local h (h.mergeWithParent m) p := by
  obtain ⟨mo, hgm, hmp⟩ := Option.bind_eq_some_iff.mp hp
  intro x hx
  rw [merge_get hgm hmp]
  cases h.get x with
  | none => rfl
  | some o =>
    obtain ⟨_, _, hk, ho⟩ := mergeF_fields m p mo x o
    simp only [Option.map_some, hk, ho, if_neg hx]

theorem merge_parentOf {h : Heap} (w : WF h) {m p : Nat} (hm : m ∈ h.alive) (hp : parentOf h m = some p)
    {x : Nat} (hx : x ∈ h.alive) :
    parentOf (h.mergeWithParent m) x = if parentOf h x = some m then some p else parentOf h x := by
  obtain ⟨mo, hgm, hmp⟩ := Option.bind_eq_some_iff.mp hp
  obtain ⟨o, hg⟩ := w.alive_get x hx
  have hk : x ∈ mo.kids ↔ o.parent = some m := by
    refine ⟨fun hk => ?_, fun hxm => ?_⟩
    · obtain ⟨_, co, hgc, hcp⟩ := w.kids_ok m hm mo hgm x hk
      exact Option.some.inj (hg.symm.trans hgc) ▸ hcp
    · obtain ⟨_, mo', hgm', hk⟩ := w.parent_ok x hx o hg m hxm
      exact Option.some.inj (hgm'.symm.trans hgm) ▸ hk
  simp only [parentOf, merge_get hgm hmp, hg, Option.map_some, Option.bind_some, mergeF_parent, hk]

end P41

namespace P35
open Heap Tree P17 P41

theorem mergeInto_node (i : Nat) (o : List Nat) (ks : List Tree) (j : Nat) (o' : List Nat) (ks' : List Tree) :
    mergeInto (.node i o ks) (.node j o' ks') = .node i (o ++ o') (ks.filter (fun c => c.id != j) ++ ks') := rfl

theorem merge_get_p {h : Heap} {m p : Nat} {mo po : Obj} (hgm : h.get m = some mo) (hmp : mo.parent = some p)
    (hgp : h.get p = some po) :
    ∃ o', (h.mergeWithParent m).get p = some o' ∧ o'.own = po.own ++ mo.own ∧
      o'.kids = po.kids.erase m ++ mo.kids := by
  obtain ⟨_, _, hk, ho⟩ := mergeF_fields m p mo p po
  exact ⟨mergeF m p mo p po, by rw [merge_get hgm hmp, hgp]; rfl, by rw [ho, if_pos rfl], by rw [hk, if_pos rfl]⟩

theorem merge_refines_unchanged {h : Heap} {m p : Nat} (hp : (h.get m).bind (·.parent) = some p)
    (fuel x : Nat) (hx : ¬ Down h x p) : absT (h.mergeWithParent m) fuel x = absT h fuel x :=
  (local_merge hp).unchanged fuel x hx

theorem absT_merge_unchanged' {h : Heap} (w : WF h) {m p : Nat} {mo : Obj} (hgm : h.get m = some mo)
    (hmp : mo.parent = some p) (n x : Nat) (hxa : x ∈ h.alive) (hxp : x ≠ p) (hx : ¬ Reach h p x) :
    absT (h.mergeWithParent m) n x = absT h n x :=
  merge_refines_unchanged ((parentOf_eq hgm).trans hmp) n x fun d => (d.reach w hxa).elim hxp hx

theorem filter_id_map_absT (h : Heap) (n m : Nat) (l : List Nat) :
    (l.map (absT h n)).filter (fun c => c.id != m) = (l.filter (· != m)).map (absT h n) := by
  simp [List.filter_map, Function.comp_def]

theorem merge_refines_parent {h : Heap} (w : WF h) {m p : Nat} (hm : m ∈ h.alive)
    (hp : (h.get m).bind (·.parent) = some p) (fuel : Nat) :
    absT (h.mergeWithParent m) fuel p = mergeInto (absT h fuel p) (absT h fuel m) := by
  cases fuel with
  | zero => rfl
  | succ n =>
    obtain ⟨mo, hgm, hmp⟩ := Option.bind_eq_some_iff.mp hp
    obtain ⟨hpa, po, hgp, hmk⟩ := w.parent_ok m hm mo hgm p hmp
    obtain ⟨o', hg', ho, hk⟩ := merge_get_p hgm hmp hgp
    rw [absT_succ_some n hg', absT_succ_some n hgp, absT_succ_some n hgm, ho, hk, mergeInto_node,
      filter_id_map_absT, ← (w.kids_nodup p hpa po hgp).erase_eq_filter, List.map_append]
    -- the other children of `p` and the children of `m` lie strictly below `p`
    have below : ∀ {c}, c ∈ h.alive → Reach h c p → absT (h.mergeWithParent m) n c = absT h n c :=
      fun hca r => merge_refines_unchanged hp n _ (not_down_of_reach w r hca)
    congr 2
    · refine List.map_congr_left fun c hc => ?_
      obtain ⟨hca, co, hgc, hcp⟩ := w.kids_ok p hpa po hgp c (List.mem_of_mem_erase hc)
      exact below hca (.one hgc hcp)
    · refine List.map_congr_left fun c hc => ?_
      obtain ⟨hca, co, hgc, hcp⟩ := w.kids_ok m hm mo hgm c hc
      exact below hca (.step hgc hcp (.one hgm hmp))

mutual
def replT (pid : Nat) (new : Tree) : Tree → Tree
  | .node i o ks => if i = pid then new else .node i o (replL pid new ks)
def replL (pid : Nat) (new : Tree) : List Tree → List Tree
  | [] => []
  | t :: ts => replT pid new t :: replL pid new ts
end

theorem replL_eq_map (pid : Nat) (new : Tree) (ts : List Tree) : replL pid new ts = ts.map (replT pid new) := by
  induction ts with
  | nil => rfl
  | cons t ts ih => simp [replL, ih]

theorem replT_hit (pid : Nat) (new : Tree) (t : Tree) (ht : t.id = pid) : replT pid new t = new := by
  cases t with | node i o ks => simp only [Tree.id] at ht; simp [replT, ht]

theorem replT_miss (pid : Nat) (new : Tree) (i : Nat) (o : List Nat) (ks : List Tree) (hi : i ≠ pid) :
    replT pid new (.node i o ks) = .node i o (ks.map (replT pid new)) := by
  simp [replT, hi, replL_eq_map]

theorem merge_refines {h : Heap} (w : WF h) {m p : Nat} (hm : m ∈ h.alive)
    (hp : (h.get m).bind (·.parent) = some p) (x : Nat) (hx : x ∈ h.alive) :
    absT (h.mergeWithParent m) (h.mergeWithParent m).size x =
      replT p (mergeInto (absT h h.size p) (absT h h.size m)) (absT h h.size x) := by
  obtain ⟨rk, hr⟩ := w.rank
  obtain ⟨mo, hgm, hmp⟩ := Option.bind_eq_some_iff.mp hp
  have hrm := (hr m hm mo hgm).2 p hmp
  rw [merge_size]
  refine (local_merge hp).absT_map w hr (replT p _) (fun x o n _ _ hx => replT_miss _ _ _ _ _ hx) ?_ h.size x hx
    (Nat.le_add_right _ _)
  intro n hpa hn
  rw [replT_hit _ _ _ (absT_id ..), merge_refines_parent w hm hp,
    absT_stable w hr n h.size p hpa hn (Nat.le_add_right _ _),
    absT_stable w hr n h.size m hm (by omega) (Nat.le_add_right _ _)]

theorem rootsOf_merge {h : Heap} (w : WF h) {m p : Nat} (hm : m ∈ h.alive)
    (hp : (h.get m).bind (·.parent) = some p) : rootsOf (h.mergeWithParent m) = rootsOf h := by
  obtain ⟨mo, hgm, hmp⟩ := Option.bind_eq_some_iff.mp hp
  unfold rootsOf
  rw [merge_alive hgm hmp, w.alive_nodup.erase_eq_filter, List.filter_filter]
  refine List.filter_congr fun x hx => ?_
  by_cases hxm : x = m
  · subst hxm; simp [hp]
  · have := merge_parentOf w hm hp hx
    unfold parentOf at this
    rw [this]
    split
    · next hxp => simp [hxp]
    · simp [hxm]

theorem merge_refines_forest {h : Heap} (w : WF h) {m p : Nat} (hm : m ∈ h.alive)
    (hp : (h.get m).bind (·.parent) = some p) :
    absF (h.mergeWithParent m) (h.mergeWithParent m).size (rootsOf (h.mergeWithParent m)) =
      (absF h h.size (rootsOf h)).map (replT p (mergeInto (absT h h.size p) (absT h h.size m))) := by
  rw [rootsOf_merge w hm hp]
  unfold absF
  rw [List.map_map]
  exact List.map_congr_left fun x hx => merge_refines w hm hp x (List.mem_filter.1 hx).1

theorem absT_merge_ancestor {h : Heap} (w : WF h) {m : Nat} {mo : Obj} {p : Nat}
    (hgm : h.get m = some mo) (hmp : mo.parent = some p) (n : Nat) {a c : Nat} {o : Obj}
    (ha : a ∈ h.alive) (hg : h.get a = some o) (hc : c ∈ o.kids) (hcp : Down h c p) :
    absT (h.mergeWithParent m) (n + 1) a =
      .node a o.own (o.kids.map fun k => if k = c then absT (h.mergeWithParent m) n c else absT h n k) := by
  obtain ⟨dn, rs, hks⟩ := List.append_of_mem hc
  have hnd := w.kids_nodup a ha o hg
  rw [(local_merge ((parentOf_eq hgm).trans hmp)).context w n ha hg hks hcp]
  rw [hks] at hnd ⊢
  rw [List.map_update_one (f := absT h n) hnd fun k _ hkc => if_neg hkc, if_pos rfl]

mutual
/-- the merge as a function of the forest and the identifier `m` alone (the parent is found by search): a right-hand
    side that does not mention the heap (`merge_refines_id`) -/
def mergeIdT (m : Nat) : Tree → Tree
  | .node i o ks =>
    match ks.find? (fun c => c.id == m) with
    | some M => mergeInto (.node i o ks) M
    | none => .node i o (mergeIdL m ks)
def mergeIdL (m : Nat) : List Tree → List Tree
  | [] => []
  | t :: ts => mergeIdT m t :: mergeIdL m ts
end

theorem mergeIdL_eq_map (m : Nat) (ts : List Tree) : mergeIdL m ts = ts.map (mergeIdT m) := by
  induction ts with
  | nil => rfl
  | cons t ts ih => simp [mergeIdL, ih]

theorem mergeIdT_hit (m i : Nat) (o : List Nat) (ks : List Tree) (M : Tree)
    (hf : ks.find? (fun c => c.id == m) = some M) :
    mergeIdT m (.node i o ks) = mergeInto (.node i o ks) M := by
  rw [mergeIdT, hf]

theorem mergeIdT_miss (m i : Nat) (o : List Nat) (ks : List Tree)
    (hf : ks.find? (fun c => c.id == m) = none) :
    mergeIdT m (.node i o ks) = .node i o (ks.map (mergeIdT m)) := by
  rw [mergeIdT, hf, mergeIdL_eq_map]

theorem find_map_absT (h : Heap) (n m : Nat) (l : List Nat) :
    (l.map (absT h n)).find? (fun c => c.id == m) = if m ∈ l then some (absT h n m) else none := by
  induction l with
  | nil => rfl
  | cons a l ih =>
    by_cases e : a = m
    · simp [e]
    · simp [e, Ne.symm e, ih]

theorem merge_refines_id {h : Heap} (w : WF h) {m : Nat} (hm : m ∈ h.alive)
    (hp : (h.get m).bind (·.parent) ≠ none) :
    absF (h.mergeWithParent m) (h.mergeWithParent m).size (rootsOf (h.mergeWithParent m)) =
      mergeIdL m (absF h h.size (rootsOf h)) := by
  obtain ⟨p, hp⟩ := Option.ne_none_iff_exists'.mp hp
  obtain ⟨mo, hgm, hmp⟩ := Option.bind_eq_some_iff.mp hp
  obtain ⟨rk, hr⟩ := w.rank
  obtain ⟨hpa, po, hgp, hmk⟩ := w.parent_ok m hm mo hgm p hmp
  rw [rootsOf_merge w hm hp, merge_size, mergeIdL_eq_map]
  unfold absF
  rw [List.map_map]
  refine List.map_congr_left fun x hx =>
    (local_merge hp).absT_map w hr _ ?_ ?_ h.size x (mem_rootsOf.1 hx).1 (Nat.le_add_right _ _)
  · -- an object other than `p` does not have `m` among its children
    intro x o n hx hg hxp
    refine mergeIdT_miss m x o.own _ ?_
    rw [find_map_absT, if_neg]
    intro hmx
    obtain ⟨_, mo', hgm', hmp'⟩ := w.kids_ok x hx o hg m hmx
    rw [hgm] at hgm'; cases hgm'
    rw [hmp] at hmp'; cases hmp'
    exact hxp rfl
  · intro n _ hn
    rw [merge_refines_parent w hm hp, absT_unfold_of_le w hr hpa hgp hn,
      mergeIdT_hit m p po.own _ (absT h n m) (by rw [find_map_absT, if_pos hmk])]

/-- the cache reset at the end of `prune` is invisible to the abstraction -/
theorem absF_finishPrune (h : Heap) :
    absF h.finishPrune h.finishPrune.size (rootsOf h.finishPrune) = absF h h.size (rootsOf h) := by
  rw [rootsOf_same (finishPrune_same h), (finishPrune_same h).size]
  refine List.map_congr_left fun x _ => absT_congr (fun i => ?_) _ x
  unfold P42.vw
  rw [finishPrune_get]
  cases h.get i <;> simp [finishF_own, finishF_kids]

theorem foldl_merge_refines {h : Heap} {ms : List Nat} (w : WF h) (hl : Legal h ms) :
    absF (ms.foldl Heap.mergeWithParent h) (ms.foldl Heap.mergeWithParent h).size
        (rootsOf (ms.foldl Heap.mergeWithParent h)) =
      ms.foldl (fun f m => mergeIdL m f) (absF h h.size (rootsOf h)) := by
  induction hl with
  | nil h => rfl
  | cons hm hp _ ih =>
    simp only [List.foldl_cons]
    rw [ih (mergeWithParent_wf _ _ w hm hp), merge_refines_id w hm hp]

/-- identifiers of the proper descendants of a tree, prefix order (`Row.desc`) -/
def descIds (t : Tree) : List Nat := (preL t.kids).map Tree.id

theorem ids_preL_map (f : Nat → Tree) (hf : ∀ c, (f c).id = c) (l : List Nat) :
    (preL (l.map f)).map Tree.id = l.flatMap (fun c => c :: descIds (f c)) := by
  induction l with
  | nil => rfl
  | cons c l ih =>
    simp only [List.map_cons, preL, List.map_append, ih, List.flatMap_cons, pre_eq, hf, descIds]

theorem descIds_absT_succ (h : Heap) (n x : Nat) :
    descIds (absT h (n + 1) x) = (kidsOf h x).flatMap (fun c => c :: descIds (absT h n c)) := by
  rw [absT_succ]
  exact ids_preL_map (absT h n) (absT_id h n) _

/-- the heap lists descendants level by level, the tree model in prefix order -/
theorem specDesc_perm_frontier (h : Heap) (n : Nat) (fr : List Nat) :
    (h.specDesc n fr).Perm (fr.flatMap fun x => descIds (absT h n x)) := by
  induction n generalizing fr with
  | zero =>
    simp only [Heap.specDesc, absT_zero, descIds, Tree.kids, preL, List.map_nil]
    induction fr with
    | nil => simp
    | cons a l ih => simp
  | succ n ih =>
    rw [specDesc_succ]
    simp only [descIds_absT_succ]
    rw [← List.flatMap_assoc]
    exact (List.Perm.append_left _ (ih _)).trans (List.flatMap_cons_perm _ _).symm

theorem specDesc_perm (h : Heap) (n i : Nat) : (h.specDesc n [i]).Perm (descIds (absT h n i)) := by
  simpa using specDesc_perm_frontier h n [i]

/-- equality fails on `P17.h0` -/
example : h0.specDesc h0.size [0] ≠ descIds (absT h0 h0.size 0) := by decide +kernel

theorem rowsL_eq_flatMap (par : Option Nat) (l : Nat) (anc : Option Nat) (ts : List Tree) :
    rowsL par l anc ts = ts.flatMap (rowsT par l anc) := by
  induction ts with
  | nil => rfl
  | cons t ts ih => simp [rowsL, ih]

theorem rowsT_node (par : Option Nat) (l : Nat) (anc : Option Nat) (i : Nat) (o : List Nat) (ks : List Tree) :
    rowsT par l anc (.node i o ks) =
      { id := i, parent := par, kids := ks.map Tree.id, own := o, level := l, ancestor := anc.getD i,
        desc := descIds (.node i o ks), pixelsSub := (Tree.node i o ks).pixels } ::
        ks.flatMap (rowsT (some i) (l + 1) (some (anc.getD i))) := by
  rw [rowsT, rowsL_eq_flatMap]; rfl

structure RowOK (h : Heap) (row : Row) : Prop where
  alive : row.id ∈ h.alive
  obj : ∃ o, h.get row.id = some o ∧ row.parent = o.parent ∧ row.kids = o.kids ∧ row.own = o.own
  level : h.specLevel h.size row.id = some row.level
  ancestor : h.specRoot h.size row.id = some row.ancestor
  desc : (h.specDesc h.size [row.id]).Perm row.desc
  desc_eq : row.desc = descIds (absT h h.size row.id)
  pixelsSub : row.pixelsSub = (absT h h.size row.id).pixels

theorem map_id_absT (h : Heap) (n : Nat) (l : List Nat) : (l.map (absT h n)).map Tree.id = l := by
  induction l with
  | nil => rfl
  | cons a l ih => simp [ih]

/-- `l` and `a` are what the heap says about `x` (level, root); `anc` is `rowsT`'s own argument: `none` at a root,
    `some a` below.  A child is started with `l + 1` and `a` by `specLevel_step`, `specRoot_step`. -/
theorem rowsT_sound {h : Heap} (w : WF h) : ∀ x ∈ h.alive, ∀ {o : Obj} {l a : Nat} (anc : Option Nat),
    h.get x = some o → h.specLevel h.size x = some l → h.specRoot h.size x = some a → anc.getD x = a →
    ∀ row ∈ rowsT o.parent l anc (absT h h.size x), RowOK h row := by
  refine w.links.kids_induction fun x o hx hg ih o' l a anc hg' hl ha hanc row hrow => ?_
  obtain rfl : o = o' := Option.some.inj (hg.symm.trans hg')
  have e := absT_unfold w hx hg
  rw [e, rowsT_node, List.mem_cons] at hrow
  rcases hrow with rfl | hrow
  · rw [← e]
    exact ⟨hx, ⟨o, hg, rfl, map_id_absT h _ o.kids, rfl⟩, hl, hanc ▸ ha, specDesc_perm h h.size x, rfl, rfl⟩
  · obtain ⟨t, ht, hrow⟩ := List.mem_flatMap.1 hrow
    obtain ⟨c, hc, rfl⟩ := List.mem_map.1 ht
    obtain ⟨hca, co, hgc, hcp⟩ := w.kids_ok x hx o hg c hc
    exact (ih c hc).2 (some (anc.getD x)) hgc (specLevel_step w hca hgc hcp hl) (specRoot_step w hca hgc hcp ha)
      hanc row (hcp ▸ hrow)

theorem rowsT_head_id (par : Option Nat) (l : Nat) (anc : Option Nat) :
    ∀ t : Tree, ∃ row ∈ rowsT par l anc t, row.id = t.id
  | .node i o ks => by rw [rowsT_node]; exact ⟨_, List.mem_cons_self, rfl⟩

theorem rowsT_complete {h : Heap} (w : WF h) {x y : Nat} (d : Down h x y) :
    ∀ (par : Option Nat) (l : Nat) (anc : Option Nat), x ∈ h.alive →
      ∃ row ∈ rowsT par l anc (absT h h.size x), row.id = y := by
  induction d with
  | refl x => intro par l anc _; simpa using rowsT_head_id par l anc (absT h h.size x)
  | step hg hc _ ih =>
    intro par l anc hx
    obtain ⟨row, hrow, hid⟩ := ih (some _) (l + 1) (some (anc.getD _)) (w.kids_ok _ hx _ hg _ hc).1
    refine ⟨row, ?_, hid⟩
    rw [absT_unfold w hx hg, rowsT_node]
    exact List.mem_cons_of_mem _ (List.mem_flatMap.2 ⟨_, List.mem_map.2 ⟨_, hc, rfl⟩, hrow⟩)

theorem exists_root {h : Heap} (w : WF h) (i : Nat) (hi : i ∈ h.alive) : ∃ r ∈ rootsOf h, Down h r i := by
  obtain ⟨r, hv⟩ := specRoot_alive w hi
  obtain ⟨e | t, ro, hgr, hpr⟩ := specRoot_reach hv
  · exact ⟨i, mem_rootsOf.2 ⟨hi, by simp [e, hgr, hpr]⟩, .refl i⟩
  · exact ⟨r, mem_rootsOf.2 ⟨t.alive w hi, by simp [hgr, hpr]⟩, reach_down w t hi⟩

theorem rows_sound {h : Heap} (w : WF h) : ∀ row ∈ rows (absF h h.size (rootsOf h)), RowOK h row := by
  intro row hrow
  rw [rows, rowsL_eq_flatMap, absF] at hrow
  obtain ⟨t, ht, hrow⟩ := List.mem_flatMap.1 hrow
  obtain ⟨r, hrr, rfl⟩ := List.mem_map.1 ht
  obtain ⟨hra, hrp⟩ := mem_rootsOf.1 hrr
  obtain ⟨o, hg⟩ := w.alive_get r hra
  have hop : o.parent = none := by simpa [hg] using hrp
  exact rowsT_sound w r hra none hg (specLevel_root hg hop) (specRoot_root hg hop) rfl row (hop ▸ hrow)

theorem rows_complete {h : Heap} (w : WF h) (i : Nat) (hi : i ∈ h.alive) :
    ∃ row ∈ rows (absF h h.size (rootsOf h)), row.id = i := by
  obtain ⟨r, hrr, d⟩ := exists_root w i hi
  obtain ⟨row, hrow, hid⟩ := rowsT_complete w d none 0 none (mem_rootsOf.1 hrr).1
  refine ⟨row, ?_, hid⟩
  rw [rows, rowsL_eq_flatMap, absF]
  exact List.mem_flatMap.2 ⟨_, List.mem_map.2 ⟨r, hrr, rfl⟩, hrow⟩

/-- the heap of the non-vacuity examples: object `i` owns pixel `10 + i` -/
def h1 : Heap :=
  { objs := [ { id := 0, kids := [1, 2], own := [10] },
              { id := 1, parent := some 0, kids := [3, 4], own := [11] },
              { id := 2, parent := some 0, own := [12] },
              { id := 3, parent := some 1, kids := [5], own := [13] },
              { id := 4, parent := some 1, own := [14] },
              { id := 5, parent := some 3, own := [15] } ],
    alive := [0, 1, 2, 3, 4, 5] }

theorem h1_wf : WF h1 := .of_links (.of_rank id (by decide +kernel))

/-- the hypotheses of `merge_refines` hold for the merge of the branch `3` (which has a child) into `1` -/
example : WF h1 ∧ 3 ∈ h1.alive ∧ (h1.get 3).bind (·.parent) = some 1 ∧ 0 ∈ h1.alive :=
  ⟨h1_wf, by decide +kernel, by decide +kernel, by decide +kernel⟩

example : absF h1 h1.size (rootsOf h1) =
    [.node 0 [10] [.node 1 [11] [.node 3 [13] [.node 5 [15] []], .node 4 [14] []], .node 2 [12] []]] := by
  rfl
example : absF (h1.mergeWithParent 3) (h1.mergeWithParent 3).size (rootsOf (h1.mergeWithParent 3)) =
    [.node 0 [10] [.node 1 [11, 13] [.node 4 [14] [], .node 5 [15] []], .node 2 [12] []]] := by
  rfl

example : absT (h1.mergeWithParent 3) 7 1 = mergeInto (absT h1 7 1) (absT h1 7 3) :=
  merge_refines_parent h1_wf (by decide +kernel) (by decide +kernel) 7
example : absT (h1.mergeWithParent 3) (h1.mergeWithParent 3).size 0 =
    replT 1 (mergeInto (absT h1 h1.size 1) (absT h1 h1.size 3)) (absT h1 h1.size 0) :=
  merge_refines h1_wf (by decide +kernel) (by decide +kernel) 0 (by decide +kernel)

/-- the legal merge list `[3, 4]` (both children of `1`, as `prune` does for a two-child parent) -/
example : Legal h1 [3, 4] := by simp only [legal_cons, Legal.nil]; decide +kernel
example : absF (h1.prune [3, 4]) (h1.prune [3, 4]).size (rootsOf (h1.prune [3, 4])) =
    [.node 0 [10] [.node 1 [11, 13, 14] [.node 5 [15] []], .node 2 [12] []]] := by
  rfl
example : [3, 4].foldl (fun f m => mergeIdL m f) (absF h1 h1.size (rootsOf h1)) =
    [.node 0 [10] [.node 1 [11, 13, 14] [.node 5 [15] []], .node 2 [12] []]] := by
  rfl

example : (rows (absF h1 h1.size (rootsOf h1))).map (fun r => (r.id, r.level, r.ancestor, r.desc)) =
    [(0, 0, 0, [1, 3, 5, 4, 2]), (1, 1, 0, [3, 5, 4]), (3, 2, 0, [5]), (5, 3, 0, []), (4, 2, 0, []), (2, 1, 0, [])] := by
  decide +kernel
example : h1.specDesc h1.size [0] = [1, 2, 3, 4, 5] ∧ h1.specLevel h1.size 5 = some 3 ∧
    h1.specRoot h1.size 5 = some 0 := by decide +kernel

end P35
