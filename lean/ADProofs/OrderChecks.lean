import ADModel.Obs
import ADProofs.ListLemmas
/-!
# ADProofs.OrderChecks — `sortNat` is an insertion sort; distinct numbers come out strictly ascending

Two strictly ascending lists with the same members are equal: that is how a bin of the label map is identified with
`sortNat` of an own list (`P8.binOf_eq`), and how the driver's run-time check `sortNat order = kept` on the order
recorded by the hook is shown to mean that the order lists exactly the kept pixels (`C04_cover_check_sound` in
`ADProps/C04.lean`).
-/

theorem sortNat_isSort : IsInsertSort (· ≤ ·) insertNat sortNat :=
  ⟨fun _ => rfl, fun _ _ _ => rfl, rfl, fun _ _ => rfl⟩

theorem sortNat_strict {l : List Nat} (h : l.Nodup) : (sortNat l).Pairwise (· < ·) :=
  sortNat_isSort.strict (key := id) (l.map_id.symm ▸ h)
