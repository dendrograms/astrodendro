import ADModel.Width
import ADProofs.Forest
/-!
# ADProofs.AssignedProofs — which pixels are assigned after `Dendrogram.compute` (C01), and the
fixed-width arithmetic behind the default threshold (C01) and the significance test (C15)

After the pixel loop `compute` drops some parentless leaves and re-labels.  Re-labelling (`mapIds`) changes identifiers
only, the new ones being positions in a list without repeated identifiers; `_make_trunk` splits the parentless
structures into kept and dropped ones (`makeTrunk_split`).  So a pixel is assigned iff it was processed and does not lie
in a dropped leaf, once.

A register of `bits` bits holds the representative of the exact result in `[lo, lo + 2 ^ bits)` (`wrap_eq`).
-/
open Tree

namespace P9

theorem own_mapIds (g : Nat → Nat) (t : Tree) : (mapIds g t).own = t.own := by
  cases t; rfl

theorem id_mapIds (g : Nat → Nat) (t : Tree) : (mapIds g t).id = g t.id := by
  cases t; rfl

theorem kids_mapIds (g : Nat → Nat) (t : Tree) : (mapIds g t).kids = mapIdsL g t.kids := by
  cases t; rfl

theorem mapIdsL_eq_map (g : Nat → Nat) (f : List Tree) : mapIdsL g f = f.map (mapIds g) := by
  induction f with
  | nil => simp [mapIdsL]
  | cons t ts ih => simp [mapIdsL, ih]

theorem pixels_mapIds (g : Nat → Nat) :
    (∀ t, (mapIds g t).pixels = t.pixels) ∧ (∀ f, Tree.pixelsL (mapIdsL g f) = Tree.pixelsL f) := by
  apply Tree.forest_induction
  · intro i o ks ih; simp only [mapIds, pixels]; rw [ih]
  · simp [mapIdsL]
  · intro t ts iht ihts; simp only [mapIdsL, pixelsL]; rw [iht, ihts]

theorem pre_mapIds (g : Nat → Nat) :
    (∀ t, pre (mapIds g t) = (pre t).map (mapIds g)) ∧
    (∀ f, preL (mapIdsL g f) = (preL f).map (mapIds g)) := by
  apply Tree.forest_induction
  · intro i o ks ih; simp only [mapIds, pre, List.map_cons]; rw [ih]
  · simp [mapIdsL, preL]
  · intro t ts iht ihts; simp only [mapIdsL, preL, List.map_append]; rw [iht, ihts]

theorem relabel_shape (f : List Tree) :
    (Tree.preL (relabel f)).map (fun t => (t.own, t.kids.length)) =
      (Tree.preL f).map (fun t => (t.own, t.kids.length)) := by
  rw [relabel, (pre_mapIds _).2 f, List.map_map]
  exact List.map_congr_left fun t _ => by simp [own_mapIds, kids_mapIds, mapIdsL_eq_map]

end P9

theorem sortBySmallest_isSort :
    IsInsertSort (fun t u : Tree => t.smallest ≤ u.smallest) insertBySmallest sortBySmallest :=
  ⟨fun _ => rfl, fun _ _ _ => rfl, rfl, fun _ _ => rfl⟩

theorem sortBySmallest_perm (l : List Tree) : (sortBySmallest l).Perm l := sortBySmallest_isSort.perm l

theorem map_findIdx_id (S : List Tree) (h : (S.map Tree.id).Nodup) :
    S.map (fun t => findIdx (fun u => u.id == t.id) S) = List.range S.length := by
  induction S with
  | nil => simp
  | cons t S ih =>
    rw [List.map_cons, List.nodup_cons] at h
    rw [List.length_cons, List.range_succ_eq_map, List.map_cons, ← ih h.2, List.map_map]
    congr 1
    · simp [findIdx]
    · apply List.map_congr_left
      intro x hx
      have hne : t.id ≠ x.id := fun e => h.1 (e ▸ List.mem_map_of_mem hx)
      simp [findIdx, hne]

/-- Only the first component of `GoodForest`, distinct temporary identifiers, is used. -/
theorem relabel_ids_perm (f : List Tree) (h : GoodForest f) :
    ((Tree.preL (relabel f)).map Tree.id).Perm (List.range (Tree.preL f).length) := by
  have hS := sortBySmallest_perm (preL f)
  have hnd : ((sortBySmallest (preL f)).map Tree.id).Nodup := (hS.map Tree.id).nodup_iff.mpr h.1
  have hfin := map_findIdx_id _ hnd
  unfold relabel
  rw [(P9.pre_mapIds _).2 f, List.map_map,
    show Tree.id ∘ mapIds (finalId f) = finalId f ∘ Tree.id from funext (P9.id_mapIds _),
    ← hS.length_eq, ← hfin]
  exact (hS.symm.map _)

namespace P9

theorem makeTrunk_split (E : Env) (roots : List Tree) :
    (makeTrunk E roots ++ droppedOrphans E roots).Perm roots :=
  (List.perm_append_comm.trans (List.filter_append_perm _ (sortById roots))).trans (sortById_perm roots)

theorem trunk_dropped_pixels (E : Env) (order : List Nat) :
    (Tree.pixelsL (makeTrunk E (run E order)) ++
      Tree.pixelsL (droppedOrphans E (run E order))).Perm order := by
  rw [← pixelsL_append]
  exact ((pixelsL_perm (makeTrunk_split E (run E order))).trans (run_pixels E order)).trans
    (List.reverse_perm order)

theorem compute_pixels (E : Env) (order : List Nat) :
    Tree.pixelsL (compute E order) = Tree.pixelsL (makeTrunk E (run E order)) :=
  (pixels_mapIds _).2 _

theorem compute_assigned_iff (E : Env) (order : List Nat) (hnd : order.Nodup) (p : Nat) :
    p ∈ Tree.pixelsL (compute E order) ↔
      (p ∈ order ∧ ¬ ∃ t ∈ droppedOrphans E (run E order), p ∈ t.pixels) := by
  have hperm := trunk_dropped_pixels E order
  rw [compute_pixels, ← mem_pixelsL, ← hperm.mem_iff, List.mem_append]
  have hdis := (List.nodup_append.mp (hperm.nodup_iff.mpr hnd)).2.2
  exact ⟨fun hp => ⟨.inl hp, fun hd => hdis p hp p hd rfl⟩, fun ⟨hp, hd⟩ => hp.resolve_right hd⟩

theorem compute_pixels_nodup (E : Env) (order : List Nat) (hnd : order.Nodup) :
    (Tree.pixelsL (compute E order)).Nodup := by
  rw [compute_pixels]
  exact (List.nodup_append.mp ((trunk_dropped_pixels E order).nodup_iff.mpr hnd)).1

theorem two_pow_split (bits : Nat) (hb : 0 < bits) :
    (2 : Int) ^ bits = 2 * 2 ^ (bits - 1) ∧ (0 : Int) < 2 ^ (bits - 1) := by
  cases bits with
  | zero => cases hb
  | succ k => exact ⟨by rw [Nat.add_sub_cancel, Int.pow_succ, Int.mul_comm], Int.pow_pos (by decide)⟩

/-- the least representable value; the representable ones are `[lo, lo + 2 ^ bits)` -/
def lo (bits : Nat) (signed : Bool) : Int := if signed then -2 ^ (bits - 1) else 0

theorem inRange_iff (bits : Nat) (signed : Bool) (x : Int) (hb : 0 < bits) :
    inRange bits signed x = true ↔ lo bits signed ≤ x ∧ x < lo bits signed + 2 ^ bits := by
  cases signed
  · simp [inRange, lo]
  · simp only [inRange, lo, if_true, decide_eq_true_eq, (two_pow_split bits hb).1]
    omega

/-- reading a residue `r` modulo `2 * M` as a signed number shifts it into `[-M, M)` -/
theorem signed_residue (M r : Int) (h0 : 0 ≤ r) (h1 : r < 2 * M) :
    (if M ≤ r then r - 2 * M else r) = -M + (r + M) % (2 * M) := by
  split
  · rw [← Int.sub_emod_right, Int.emod_eq_of_lt] <;> omega
  · rw [Int.emod_eq_of_lt] <;> omega

theorem wrap_eq (bits : Nat) (signed : Bool) (x : Int) (hb : 0 < bits) :
    wrap bits signed x = lo bits signed + (x - lo bits signed) % 2 ^ bits := by
  obtain ⟨h2, hM⟩ := two_pow_split bits hb
  cases signed
  · simp [wrap, lo]
  · have h0 : 2 * (2 : Int) ^ (bits - 1) ≠ 0 := by omega
    simp only [wrap, lo, Bool.true_and, decide_eq_true_eq, h2, if_true, Int.sub_neg, ge_iff_le,
      Int.mul_ediv_cancel_left _ (show (2 : Int) ≠ 0 by decide)]
    rw [signed_residue _ _ (Int.emod_nonneg x h0) (Int.emod_lt_of_pos x (by omega)), Int.emod_add_emod]

theorem wrap_inRange (bits : Nat) (signed : Bool) (x : Int) (hb : 0 < bits) :
    inRange bits signed (wrap bits signed x) = true := by
  have hm : (0 : Int) < 2 ^ bits := Int.pow_pos (by decide)
  have := Int.emod_nonneg (x - lo bits signed) (Int.ne_of_gt hm)
  have := Int.emod_lt_of_pos (x - lo bits signed) hm
  rw [inRange_iff _ _ _ hb, wrap_eq _ _ _ hb]; omega

theorem wrap_id (bits : Nat) (signed : Bool) (x : Int) (hb : 0 < bits)
    (h : inRange bits signed x = true) : wrap bits signed x = x := by
  rw [inRange_iff _ _ _ hb] at h
  rw [wrap_eq _ _ _ hb, Int.emod_eq_of_lt] <;> omega

end P9
