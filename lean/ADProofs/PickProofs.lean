import ADModel.Hub
import ADProofs.ListLemmas
/-!
# ADProofs.PickProofs — line picking in the viewer (C19)

viewer.py:239-270 (`line_picker`): `peaks = [structure of line i .get_peak()[1] for i in ind];
ind[np.argmax(peaks)]` — numpy's `argmax` returns the FIRST maximal element.

`P29b.argmaxFirst` and `P29b.pickLine` repeat `Hub.argmaxFirst` and `Hub.pickLine` of `ADModel/Hub.lean` equation by
equation; `pickLine_eq` identifies them, and through it `C19_pick` reads `pickLine_spec` as a statement about the model.
-/

namespace P29b

def argmaxFirst : List Int → Nat
  | [] => 0
  | x :: xs => if xs.all (fun y => decide (y ≤ x)) then 0 else argmaxFirst xs + 1

def pickLine (lineStruct : List Nat) (peak : Nat → Int) (ind : List Nat) : Option Nat :=
  if ind = [] then none
  else some (lineStruct.getD
    (ind.getD (argmaxFirst (ind.map fun i => peak (lineStruct.getD i 0))) 0) 0)

theorem argmaxFirst_spec (l : List Int) (h : l ≠ []) :
    argmaxFirst l < l.length ∧ (∀ y ∈ l, y ≤ l.getD (argmaxFirst l) 0) ∧
      ∀ j < argmaxFirst l, l.getD j 0 < l.getD (argmaxFirst l) 0 := by
  induction l with
  | nil => exact absurd rfl h
  | cons x xs ih =>
    rw [argmaxFirst]
    split
    · next hall =>
      exact ⟨Nat.zero_lt_succ _, fun y hy => (List.mem_cons.mp hy).elim (fun e => e ▸ Int.le_refl _)
        fun hy => of_decide_eq_true (List.all_eq_true.mp hall y hy), fun _ hj => nomatch hj⟩
    · next hall =>
      -- some `z` of the tail exceeds the head, so the tail is not empty and its maximum exceeds the head
      obtain ⟨z, hz, hzx⟩ := List.all_eq_false.mp ((Bool.not_eq_true _).mp hall)
      obtain ⟨hlt, hmax, hfirst⟩ := ih (List.ne_nil_of_mem hz)
      have hx : x < xs.getD (argmaxFirst xs) 0 :=
        Int.lt_of_lt_of_le (Int.not_le.mp fun h => hzx (decide_eq_true h)) (hmax z hz)
      refine ⟨Nat.succ_lt_succ hlt, fun y hy => ?_, fun j hj => ?_⟩
      · rcases List.mem_cons.mp hy with rfl | hy
        · exact Int.le_of_lt hx
        · exact hmax y hy
      · cases j with
        | zero => exact hx
        | succ j => exact hfirst j (Nat.lt_of_succ_lt_succ hj)

theorem argmaxFirst_unique (l : List Int) (k : Nat) (hk : k < l.length)
    (hmax : ∀ y ∈ l, y ≤ l.getD k 0) (hfirst : ∀ j < k, l.getD j 0 < l.getD k 0) :
    k = argmaxFirst l := by
  obtain ⟨hlt, hmax', hfirst'⟩ := argmaxFirst_spec l (List.ne_nil_of_length_pos (Nat.zero_lt_of_lt hk))
  rcases Nat.lt_trichotomy k (argmaxFirst l) with h | h | h
  · have h1 := hfirst' k h
    have h2 := hmax _ (List.getD_mem hlt 0)
    omega
  · exact h
  · have h1 := hfirst _ h
    have h2 := hmax' _ (List.getD_mem hk 0)
    omega

theorem pickLine_none_iff (ls : List Nat) (peak : Nat → Int) (ind : List Nat) :
    pickLine ls peak ind = none ↔ ind = [] := by
  unfold pickLine; split <;> simp [*]

def pickPos (ls : List Nat) (peak : Nat → Int) (ind : List Nat) : Nat :=
  argmaxFirst (ind.map fun i => peak (ls.getD i 0))

theorem pickLine_spec {ls : List Nat} {peak : Nat → Int} {ind : List Nat} {s : Nat}
    (h : pickLine ls peak ind = some s) :
    pickPos ls peak ind < ind.length ∧ s = ls.getD (ind.getD (pickPos ls peak ind) 0) 0 ∧
    (∀ i ∈ ind, peak (ls.getD i 0) ≤ peak s) ∧
    ∀ j < pickPos ls peak ind, peak (ls.getD (ind.getD j 0) 0) < peak s := by
  unfold pickLine at h
  split at h
  · cases h
  · next hne =>
    obtain rfl := Option.some.inj h
    obtain ⟨hlt, hmax, hfirst⟩ := argmaxFirst_spec (ind.map fun i => peak (ls.getD i 0)) (by simpa using hne)
    rw [List.length_map] at hlt
    have e : ∀ k (hk : k < ind.length),
        (ind.map fun i => peak (ls.getD i 0)).getD k 0 = peak (ls.getD (ind.getD k 0) 0) := fun k hk => by
      rw [← List.getElem_eq_getD (h := by simpa using hk), ← List.getElem_eq_getD (h := hk), List.getElem_map]
    refine ⟨hlt, rfl, fun i hi => ?_, fun j hj => ?_⟩
    · rw [← e _ hlt]; exact hmax _ (List.mem_map_of_mem hi)
    · rw [← e _ hlt, ← e j (Nat.lt_trans hj hlt)]; exact hfirst j hj

theorem pick_first_among_ties {ls : List Nat} {peak : Nat → Int} {ind : List Nat} {s : Nat} :
    pickLine ls peak ind = some s →
    ∀ j < pickPos ls peak ind, peak (ls.getD (ind.getD j 0) 0) < peak s :=
  fun h => (pickLine_spec h).2.2.2

theorem argmaxFirst_eq : Hub.argmaxFirst = argmaxFirst := by
  funext l
  induction l with
  | nil => rfl
  | cons x xs ih => rw [Hub.argmaxFirst, argmaxFirst, ih]

theorem pickLine_eq : Hub.pickLine = pickLine := by
  funext ls peak ind
  rw [Hub.pickLine, argmaxFirst_eq, pickLine]

end P29b
