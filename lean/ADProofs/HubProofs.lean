import ADModel.Hub
import ADProofs.ListLemmas
/-!
# ADProofs.HubProofs — viewer selections (C19; end results in `ADProps/C19.lean`)
-/

namespace P16

theorem get_select (h : Hub) (slot slot' : Nat) (ids : List (Option Nat)) (sub : Bool) :
    (h.select slot ids sub).get slot' =
      if slot = slot' then some { ids := ids, subtree := sub } else h.get slot' := by
  simp only [Hub.get, Hub.select, Hub.setSel, List.find?_upsert]
  split <;> rfl

theorem select_log_drop (h : Hub) (slot : Nat) (ids : List (Option Nat)) (sub : Bool) :
    (h.select slot ids sub).log.drop h.log.length =
      (List.range h.ncallbacks).map (fun c => (c, slot)) :=
  List.drop_left

theorem count_range_map (slot c n : Nat) :
    ((List.range n).map (fun c => (c, slot))).count (c, slot) = if c < n then 1 else 0 := by
  rw [← List.count_range, List.count_eq_countP, List.countP_map, List.count_eq_countP]
  exact congrArg (List.countP · _) (funext fun x => by rw [Bool.eq_iff_iff]; simp)

theorem addCallback_keeps (h : Hub) :
    h.addCallback.sels = h.sels ∧ h.addCallback.log = h.log ∧
      h.addCallback.ncallbacks = h.ncallbacks + 1 :=
  ⟨rfl, rfl, rfl⟩

theorem scatter_filterMap (rowIds : List Nat) (hnd : rowIds.Nodup) (rows : List Nat)
    (hr : ∀ r ∈ rows, r < rowIds.length) :
    (rows.map (fun r => rowIds.getD r 0)).filterMap
      (fun i => if rowIds.contains i then some (rowIds.idxOf i) else none) = rows := by
  rw [List.filterMap_map]
  refine (List.filterMap_congr' fun r h => ?_).trans List.filterMap_some
  have hr := hr r h
  rw [Function.comp_apply, ← List.getElem_eq_getD (h := hr), if_pos (by simp), hnd.idxOf_getElem r hr]

theorem label_single (i : Nat) (sub : Bool) :
    Hub.labelText { ids := [some i], subtree := sub } = s!"Selected structure: {i}" := by
  simp [Hub.labelText]

end P16
