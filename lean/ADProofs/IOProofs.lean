import ADProofs.PruneProofs
import ADProofs.IndexProofs
import ADProofs.SimProofs
import ADModel.IO
/-!
# ADProofs.IOProofs — `ADModel.IO` at the model level: a save / load cycle (`reload`: C09, C02),
catalog rows (C12)

`reload f n` is `regroupL` with the label map of `f`: every structure keeps its identifier and its
children and gets the bin of its identifier as own list.  In a well-formed forest that bin is a
permutation of the own list (`P8.binOf_perm`), and `regroupL` maps over the prefix listing
(`preL_regroupL`); what is proved of `reload` follows from these two.  What a forest inherits from
a similar one (`SimL.arity`, `SimL.own_nonempty`; a re-loaded one in particular) stands here because
`ADProofs.SimProofs` does not know `PArity`.
-/
open Tree

namespace P21

theorem regroupT_id (lm : List (Option Nat)) (t : Tree) : (regroupT lm t).id = t.id := by
  cases t; rfl

theorem regroupT_own (lm : List (Option Nat)) (t : Tree) : (regroupT lm t).own = binOf lm t.id := by
  cases t; rfl

theorem regroupT_kids (lm : List (Option Nat)) (t : Tree) :
    (regroupT lm t).kids = regroupL lm t.kids := by
  cases t; rfl

theorem regroupL_eq_map (lm : List (Option Nat)) (l : List Tree) :
    regroupL lm l = l.map (regroupT lm) := by
  induction l with
  | nil => simp [regroupL]
  | cons t ts ih => simp [regroupL, ih]

theorem pre_regroup (lm : List (Option Nat)) :
    (∀ t : Tree, pre (regroupT lm t) = (pre t).map (regroupT lm)) ∧
    (∀ l : List Tree, preL (regroupL lm l) = (preL l).map (regroupT lm)) := by
  apply Tree.forest_induction
  · intro i o ks ih
    simp only [regroupT, pre, List.map_cons, ih]
  · simp [regroupL, preL]
  · intro t ts iht ihts
    simp only [regroupL, preL, List.map_append, iht, ihts]

theorem preL_regroupL (lm : List (Option Nat)) (l : List Tree) :
    preL (regroupL lm l) = (preL l).map (regroupT lm) := (pre_regroup lm).2 l

theorem regroup_regroup (lm lm' : List (Option Nat)) :
    (∀ t : Tree, regroupT lm (regroupT lm' t) = regroupT lm t) ∧
    (∀ l : List Tree, regroupL lm (regroupL lm' l) = regroupL lm l) := by
  apply Tree.forest_induction
  · intro i o ks ih
    simp only [regroupT, ih]
  · simp [regroupL]
  · intro t ts iht ihts
    simp only [regroupL, iht, ihts]

theorem reload_ids (f : List Tree) (n : Nat) :
    (Tree.preL (reload f n)).map Tree.id = (Tree.preL f).map Tree.id := by
  rw [reload, preL_regroupL, List.map_map]
  exact List.map_congr_left fun t _ => regroupT_id _ t

theorem regroup_sim (lm : List (Option Nat)) :
    (∀ t : Tree, (∀ s ∈ pre t, (binOf lm s.id).Perm s.own) →
        P10.Sim (fun p => p) t (regroupT lm t)) ∧
    (∀ l : List Tree, (∀ s ∈ preL l, (binOf lm s.id).Perm s.own) →
        P10.SimL (fun p => p) l (regroupL lm l)) := by
  apply Tree.forest_induction
  · intro i o ks ih h
    rw [regroupT]
    refine .mk ?_ (ih ?_)
    · simpa [Tree.id, Tree.own] using h (node i o ks) (mem_pre_self _)
    · intro s hs
      exact h s (by rw [pre]; exact List.mem_cons_of_mem _ hs)
  · intro _; rw [regroupL]; exact .nil
  · intro t ts iht ihts h
    rw [regroupL]
    refine .cons (iht ?_) (ihts ?_) (List.Perm.refl _)
    · intro s hs; exact h s (by rw [preL]; exact List.mem_append_left _ hs)
    · intro s hs; exact h s (by rw [preL]; exact List.mem_append_right _ hs)

/-- same hierarchy: regions, own pixel sets, parent relation -/
theorem reload_sim (f : List Tree) (n : Nat) (h : P8.WF f n) :
    P10.SimL (fun p => p) f (reload f n) :=
  (regroup_sim (labelMap f n)).2 f fun _ hs => P8.binOf_perm h hs

theorem reload_wf (f : List Tree) (n : Nat) (h : P8.WF f n) : P8.WF (reload f n) n := by
  have hp : (pixelsL (reload f n)).Perm (pixelsL f) := by
    simpa using (reload_sim f n h).pixelsL
  refine ⟨?_, hp.nodup_iff.mpr h.2.1, ?_⟩
  · rw [reload_ids]; exact h.1
  · intro p hp'; exact h.2.2 p (hp.mem_iff.mp hp')

/-- the label map written by a second save is the one that was loaded -/
theorem reload_labelOf (f : List Tree) (n : Nat) (h : P8.WF f n) (p : Nat) :
    labelOf (reload f n) p = labelOf f p :=
  (P8.labelOf_map (g := id) (preL_regroupL _ f) fun t ht =>
    ⟨regroupT_id _ t, by rw [regroupT_own]; exact (P8.binOf_perm h ht).mem_iff⟩).trans Option.map_id'

section Catalog
open CatalogRows
variable {α : Type}

theorem sortRows_isSort : IsInsertSort (fun a b : Nat × α => a.1 ≤ b.1) insertRow sortRows :=
  ⟨fun _ => rfl, fun _ _ _ => rfl, rfl, fun _ _ => rfl⟩

theorem make_perm (stat : Tree → α) (l : List Tree) :
    (make stat l).Perm (l.map fun s => (s.id, stat s)) := sortRows_isSort.perm _

theorem make_sorted (stat : Tree → α) (l : List Tree) :
    (make stat l).Pairwise (fun a b => a.1 ≤ b.1) :=
  sortRows_isSort.sorted (fun a b => Nat.le_total a.1 b.1) (fun _ _ _ => Nat.le_trans) _

end Catalog

end P21

namespace P10
variable {σ : Nat → Nat} {f f' : List Tree}

theorem SimL.arity (h : SimL σ f f') (ha : ∀ s ∈ Tree.preL f, PArity s) : ∀ s ∈ Tree.preL f', PArity s :=
  fun s' hs' =>
    have ⟨s, hs, hsim⟩ := h.preL.mem_right s' hs'
    (ha s hs).imp hsim.kids.nil_iff.mp (hsim.kids.length_eq ▸ ·)

theorem SimL.own_nonempty (h : SimL σ f f') (ha : ∀ s ∈ Tree.preL f, s.own ≠ []) :
    ∀ s ∈ Tree.preL f', s.own ≠ [] :=
  fun s' hs' =>
    have ⟨s, hs, hsim⟩ := h.preL.mem_right s' hs'
    hsim.own_ne_nil (ha s hs)

end P10
