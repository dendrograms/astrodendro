import ADProofs.Run
/-!
# ADProofs.Forest — the forest the pixel loop builds is well formed (C02, C04); what `_make_trunk` keeps and drops

The invariants of the loop are all proved the same way: a structure after one step is an old one or the receiving
one (`node_step`), and `Recv` says what the receiving one looks like.
-/
open Tree

def Arity (t : Tree) : Prop := t.kids = [] ∨ 2 ≤ t.kids.length

/-- what re-labelling asks of a forest (`relabel_ids_perm`, `C02_final_ids`); it holds of the trunk of every run
(`P30.makeTrunk_good`) -/
def GoodForest (f : List Tree) : Prop :=
  ((Tree.preL f).map Tree.id).Nodup ∧ (∀ t ∈ Tree.preL f, t.own ≠ []) ∧ (Tree.pixelsL f).Nodup

theorem Recv.kids_old {E : Env} {roots : List Tree} {p : Nat} {P : Tree} (h : Recv E roots p P) :
    ∀ x ∈ preL P.kids, x ∈ preL roots := by
  intro x hx
  cases h with
  | grow t abs hp => exact mem_preL_of_kids (mem_adj_of_perm hp List.mem_cons_self).1 hx
  | new abs keep hp =>
    obtain ⟨L, hL, hxL⟩ := mem_preL.mp hx
    exact mem_preL.mpr ⟨L, (mem_adj_of_perm hp (List.mem_append_right _ hL)).1, hxL⟩

theorem mem_preL_step (E : Env) (roots : List Tree) (p : Nat) (x : Tree)
    (hx : x ∈ preL (step E roots p)) :
    x ∈ preL roots ∨ x = joinAdj E p (sortById (roots.filter (touches E p))) := by
  obtain ⟨r, hr, hxr⟩ := mem_preL.mp hx
  rcases mem_step.mp hr with hr | rfl
  · exact .inl (mem_preL.mpr ⟨r, hr.1, hxr⟩)
  · exact (mem_pre.mp hxr).symm.imp_left ((recv_joinAdj E roots p).kids_old x)

theorem node_step {E : Env} {roots : List Tree} {p : Nat} {P : Tree}
    (hP : P ∈ preL (step E roots p)) : P ∈ preL roots ∨ Recv E roots p P :=
  (mem_preL_step E roots p P hP).imp_right fun (h : P = _) => h ▸ recv_joinAdj E roots p

theorem run_arity (E : Env) (order : List Nat) : ∀ t ∈ Tree.preL (run E order), Arity t :=
  run_induction E (fun roots => ∀ t ∈ preL roots, Arity t) (fun _ ht => nomatch ht)
    (fun roots p h x hx => by
      rcases node_step hx with hx | ⟨t, _, hperm, _⟩ | ⟨_, keep, _, _, _, hk⟩
      · exact h x hx
      · exact h t (Recv.grow_root_mem hperm)
      · exact hk) order

theorem makeTrunk_nodes_subset (E : Env) (roots : List Tree) :
    ∀ t ∈ Tree.preL (makeTrunk E roots), t ∈ Tree.preL roots :=
  trunk_nodes_subset _ roots

namespace P9

theorem dropped_mem_iff (E : Env) (roots : List Tree) (t : Tree) :
    t ∈ droppedOrphans E roots ↔ t ∈ roots ∧ t.kids = [] ∧ E.indepOrphan t = false := by
  unfold droppedOrphans
  rw [List.mem_filter, mem_sortById]
  simp [isLeaf, List.isEmpty_iff]

theorem makeTrunk_mem_iff (E : Env) (roots : List Tree) (t : Tree) :
    t ∈ makeTrunk E roots ↔ t ∈ roots ∧ ¬ (t.kids = [] ∧ E.indepOrphan t = false) := by
  unfold makeTrunk
  rw [List.mem_filter, mem_sortById]
  by_cases h : t.kids = [] <;> simp [isLeaf, h]

end P9

theorem makeTrunk_run_arity (E : Env) (order : List Nat) :
    ∀ t ∈ Tree.preL (makeTrunk E (run E order)), Arity t :=
  fun t ht => run_arity E order t (makeTrunk_nodes_subset E _ t ht)

theorem run_ids_subset (E : Env) (order : List Nat) : ∀ t ∈ Tree.preL (run E order), t.id ∈ order :=
  run_prefix_induction E order (fun pre roots => ∀ t ∈ preL roots, t.id ∈ pre) (fun _ ht => nomatch ht)
    fun pre p _ _ ih x hx => by
      rcases node_step hx with hx | ⟨t, _, hperm, _⟩ | _
      · exact List.mem_append_left _ (ih x hx)
      · exact List.mem_append_left _ (ih t (Recv.grow_root_mem hperm))
      · exact List.mem_append_right _ List.mem_cons_self

theorem step_ids_nodup (E : Env) (roots : List Tree) (p : Nat)
    (hnd : ((preL roots).map Tree.id).Nodup) (hp : ∀ t ∈ preL roots, t.id ≠ p) :
    ((preL (step E roots p)).map Tree.id).Nodup := by
  have hr := (preL_perm (roots_perm E roots p)).map Tree.id
  rw [preL_append, List.map_append] at hr
  rw [step, preL_append, preL_singleton, pre_eq, List.map_append, List.map_cons]
  generalize roots.filter (fun t => !touches E p t) = U at hr ⊢
  have hR := recv_joinAdj E roots p
  generalize joinAdj E p _ = J at hR ⊢
  cases hR with
  | grow t abs hperm =>
    -- same identifiers as the untouched roots followed by `t`
    have h2 := hr.trans (((preL_perm hperm).map Tree.id).append_left _)
    rw [preL, List.map_append, pre_eq] at h2
    exact (h2.nodup_iff.mp hnd).sublist (.append_left (List.sublist_append_left _ _) _)
  | new abs keep hperm =>
    -- `p`, and the identifiers of the untouched and the significant roots
    have h2 := hr.trans (((preL_perm hperm).map Tree.id).append_left _)
    rw [preL_append, List.map_append] at h2
    have h3 := List.Sublist.append_left
      (List.sublist_append_right ((preL abs).map Tree.id) ((preL keep).map Tree.id))
      ((preL U).map Tree.id)
    refine List.perm_middle.nodup_iff.mpr
      (List.nodup_cons.mpr ⟨fun hm => ?_, (h2.nodup_iff.mp hnd).sublist h3⟩)
    obtain ⟨t, ht, hid⟩ := List.mem_map.mp (h2.symm.subset (h3.subset hm))
    exact hp t ht hid

theorem run_ids_nodup (E : Env) (order : List Nat) (hnd : order.Nodup) :
    ((Tree.preL (run E order)).map Tree.id).Nodup :=
  run_prefix_induction E order (fun _ roots => ((preL roots).map Tree.id).Nodup) .nil
    fun pre p _ ho ih => step_ids_nodup E _ p ih fun t ht hid =>
      fresh_at ho hnd (hid ▸ run_ids_subset E pre t ht)

/-- the creating pixel of a structure is one of its own pixels -/
theorem run_id_mem_own (E : Env) (order : List Nat) : ∀ t ∈ Tree.preL (run E order), t.id ∈ t.own :=
  run_induction E (fun roots => ∀ t ∈ preL roots, t.id ∈ t.own) (fun _ ht => nomatch ht)
    (fun roots p h x hx => by
      rcases node_step hx with hx | ⟨t, _, hperm, _⟩ | _
      · exact h x hx
      · exact List.mem_append_left _ (h t (Recv.grow_root_mem hperm))
      · exact List.mem_cons_self) order

theorem run_own_nonempty (E : Env) (order : List Nat) : ∀ t ∈ Tree.preL (run E order), t.own ≠ [] :=
  fun t ht => List.ne_nil_of_mem (run_id_mem_own E order t ht)

theorem run_head_id (E : Env) (order : List Nat) :
    ∀ t ∈ preL (run E order), ∃ rest, t.own = t.id :: rest :=
  run_induction E (fun roots => ∀ t ∈ preL roots, ∃ rest, t.own = t.id :: rest) (fun _ ht => nomatch ht)
    (fun roots p h x hx => by
      rcases node_step hx with hx | ⟨t, abs, hperm, _⟩ | _
      · exact h x hx
      · obtain ⟨rest, e⟩ := h t (mem_preL_of_mem (mem_adj_of_perm hperm List.mem_cons_self).1)
        exact ⟨rest ++ p :: P10.ownL abs, by simp [e]⟩
      · exact ⟨_, rfl⟩) order

theorem order_unique_of_distinct (val : Nat → Int) (o1 o2 : List Nat)
    (h1 : o1.Pairwise (fun a b => val b < val a)) (h2 : o2.Pairwise (fun a b => val b < val a))
    (hperm : o1.Perm o2) : o1 = o2 :=
  hperm.eq_of_pairwise (fun a b _ _ h h' => by omega) h1 h2
