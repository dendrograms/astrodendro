import ADModel.PruneOrig
import ADProofs.PruneComputeProofs
import ADProofs.PruneProofs
/-!
# ADProofs.PruneOrigProofs — pruning with the original-merge-level rule `allChildOrig` equals
computing with the stricter parameters, for `min_delta` and `min_npix` together (property C08)

Setting: thresholds `d0 ≤ d1`, `n0 ≤ n1`, an order of distinct pixels sorted by non-increasing
value (ties allowed), any adjacency.  Both sides are compared with a declarative collapse of the
loose dendrogram: bottom-up, a child that has become a leaf and fails "at least `n` pixels and a
pixel at least `d` above the level" (`bdAt lv`) is absorbed, an only child is dissolved.  The
level at which the child `c` of node `i` is tested is a parameter `L i c.id` of `collapse`:
* `LS`: the value of the parent's identifier — what the run does, identifiers being creating
  pixels; the strict run simulates the `LS`-collapse of the loose run step by step (`run_collapse`);
* `LP tbl`: looked up by the child's identifier — what `prune` with `allChildOrig` does, also
  after adoption by a grandparent; a pruning step does not change the `LP`-collapse and a fixpoint
  with the arity discipline is its own collapse (`pruneLoop_eq_collapse`).
On the loose trunk the table of original levels gives every child the value of its parent's
creating pixel (`lookup_loose`), so the two collapses are the same and `pruneOrig_eq_compute`
follows, whatever the sign of `d0`.
-/
open Tree

namespace P28

open P10 (Sim SimL PR F2 ownL)
open P18 (Sm SmL finishG)

abbrev crits (d : Int) (n : Nat) : List Crit := [Crit.minDelta d, Crit.minNpix n]

section Test
variable (val : Nat → Int) (d : Int) (n : Nat)

def failsAt (lv : Int) (t : Tree) : Bool :=
  decide (t.pixels.length < n) || t.pixels.all (fun x => decide (val x - lv < d))

def bdAt (lv : Int) (t : Tree) : Bool := t.isLeaf && failsAt val d n lv t

theorem failsAt_sim {lv : Int} {c c' : Tree} (h : Sm c c') :
    failsAt val d n lv c = failsAt val d n lv c' := by
  simp only [failsAt, (P18.Sm.pixels' h).length_eq, (P18.Sm.pixels' h).all_eq]

theorem bdAt_sim {lv : Int} {c c' : Tree} (h : Sm c c') : bdAt val d n lv c = bdAt val d n lv c' := by
  simp only [bdAt, failsAt_sim val d n h, P10.Sim.isLeaf h]

theorem bdAt_leaf {lv : Int} {c : Tree} (h : bdAt val d n lv c = true) : c.kids = [] := by
  simp only [bdAt, Bool.and_eq_true] at h
  exact (isLeaf_iff c).mp h.1

/-- the region of a leaf is its own pixels, of which `vmax` is the largest value -/
theorem allMerge_leaf {lv : Int} {t : Tree} (hk : t.kids = []) (hne : t.own ≠ []) (p : Nat) :
    allMerge val (crits d n) t p lv = !failsAt val d n lv t := by
  have hp : t.pixels = t.own := leaf_pixels hk
  obtain ⟨a, ha, hv⟩ := vmax_attained val t hne
  have hall : t.pixels.all (fun x => decide (val x - lv < d)) = decide (t.vmax val - lv < d) := by
    rw [Bool.eq_iff_iff, List.all_eq_true, hp]
    simp only [decide_eq_true_eq]
    constructor
    · intro h; have := h a ha; omega
    · intro h x hx; have := le_vmax val t x hx; omega
  simp only [allMerge, crits, List.all_cons, List.all_nil, Crit.atMerge, failsAt, hall, Bool.and_true,
    Bool.not_or, ← decide_not, Int.not_lt, Nat.not_lt]
  exact Bool.and_comm _ _

theorem allChildOrig_eq_allMerge {tbl : List (Nat × Int)} {P k : Tree} {lv : Int}
    (h : lookupLevel tbl k.id = some lv) (p : Nat) :
    allChildOrig val tbl (crits d n) P k = allMerge val (crits d n) k p lv := by
  simp only [allChildOrig, allMerge, crits, List.all_cons, List.all_nil, Crit.childOrig, h, Crit.child,
    Crit.atMerge]

theorem failsAt_mono {d' : Int} {n' : Nat} (hd : d ≤ d') (hn : n ≤ n') {lv : Int} {t : Tree}
    (h : failsAt val d n lv t = true) : failsAt val d' n' lv t = true := by
  simp only [failsAt, Bool.or_eq_true, decide_eq_true_eq, List.all_eq_true] at h ⊢
  rcases h with h | h
  · left; omega
  · right; intro x hx; have := h x hx; omega

end Test

section Collapse
variable (val : Nat → Int) (d : Int) (n : Nat)

abbrev bdL (L : Nat → Nat → Int) (i : Nat) (c : Tree) : Bool := bdAt val d n (L i c.id) c

mutual
def collapse (L : Nat → Nat → Int) : Tree → Tree
  | node i o ks => finishG (bdL val d n L i) i o (collapseL L ks)
def collapseL (L : Nat → Nat → Int) : List Tree → List Tree
  | [] => []
  | t :: ts => collapse L t :: collapseL L ts
end

variable (L : Nat → Nat → Int)

theorem collapseL_eq_map (l : List Tree) : collapseL val d n L l = l.map (collapse val d n L) := by
  induction l with
  | nil => rfl
  | cons t ts ih => simp [collapseL, ih]

theorem collapse_node (i : Nat) (o : List Nat) (ks : List Tree) :
    collapse val d n L (node i o ks) =
      finishG (bdL val d n L i) i o (ks.map (collapse val d n L)) := by
  simp [collapse, collapseL_eq_map]

theorem collapse_eq (t : Tree) :
    collapse val d n L t =
      finishG (bdL val d n L t.id) t.id t.own (t.kids.map (collapse val d n L)) := by
  cases t with | node i o ks => simp [collapse_node]

theorem collapse_id (t : Tree) : (collapse val d n L t).id = t.id := by
  rw [collapse_eq]; rfl

theorem collapse_leaf {t : Tree} (h : t.kids = []) : collapse val d n L t = t := by
  rw [collapse_eq, h, List.map_nil, P18.finishG_nil, ← h, Tree.eta]

theorem collapse_pixels (t : Tree) : (collapse val d n L t).pixels.Perm t.pixels := by
  induction t using Tree.ind with
  | h i o ks ih =>
    rw [collapse_node]
    refine (P18.finishG_pixels _ _ _ _ (fun c _ h => bdAt_leaf val d n h)).trans ?_
    rw [pixels, pixelsL_eq_flatMap, pixelsL_eq_flatMap, List.flatMap_map]
    exact List.Perm.append_left o (List.Perm.flatMap_left' ks ih)

theorem map_collapse_leaves {l : List Tree} (h : ∀ t ∈ l, t.kids = []) :
    l.map (collapse val d n L) = l :=
  (List.map_congr_left fun t ht => collapse_leaf val d n L (h t ht)).trans (List.map_id' l)

theorem collapse_congr (L' : Nat → Nat → Int) (t : Tree)
    (h : ∀ P ∈ pre t, ∀ k ∈ P.kids, L P.id k.id = L' P.id k.id) :
    collapse val d n L t = collapse val d n L' t := by
  induction t using Tree.ind with
  | h i o ks ih =>
    rw [collapse_node, collapse_node, List.map_congr_left fun k hk =>
      ih k hk fun P hP => h P (pre_subset_pre (kid_mem_pre hk) P hP)]
    apply P18.finishG_congr
    intro c hc
    obtain ⟨k, hk, rfl⟩ := List.mem_map.mp hc
    simp only [bdL, collapse_id, show L i k.id = L' i k.id from h (node i o ks) (mem_pre_self _) k hk]

theorem collapse_own_perm (i : Nat) {o o' : List Nat} (ks : List Tree) (ho : o'.Perm o) :
    Sm (collapse val d n L (node i o ks)) (collapse val d n L (node i o' ks)) := by
  rw [collapse_node, collapse_node]
  exact P18.finishG_own _ i i _ ho

theorem collapse_only_child (i : Nat) (o : List Nat) (y : Tree) (hL : ∀ c, L i c = L y.id c) :
    collapse val d n L (node i (o ++ y.own) y.kids) = collapse val d n L (node i o [y]) := by
  have hb : bdL val d n L i = bdL val d n L y.id := by funext c; simp only [bdL, hL]
  rw [collapse_node, collapse_node, List.map_cons, List.map_nil,
    P18.finishG_single (bdL val d n L i) i o _ (bdAt_leaf val d n), collapse_eq val d n L y, hb,
    P18.finishG_dissolve]

end Collapse

abbrev LS (val : Nat → Int) : Nat → Nat → Int := fun i _ => val i

section RunSide
variable (val : Nat → Int) (nbrs : Nat → List Nat)

/-- collapsing the receiving structure of a step = finishing the collapsed adjacent roots with the
combined test -/
theorem collapse_joinAdj (d : Int) (n : Nat) (E : Env) (b1 : Tree → Bool) (p : Nat) (A : List Tree)
    (hb1l : ∀ c, b1 c = true → c.kids = [])
    (hb1 : ∀ t ∈ A, b1 (collapse val d n (LS val) t) =
      (insig E p t || bdAt val d n (val p) (collapse val d n (LS val) t))) :
    Sm (collapse val d n (LS val) (joinAdj E p A))
      (finishG b1 p [p] (A.map (collapse val d n (LS val)))) := by
  -- insignificant leaves `M` among the adjacent roots are their own collapse and pass `b1`:
  -- they can be absorbed first
  have absorb : ∀ M K : List Tree, A.Perm (M ++ K) → (∀ m ∈ M, insig E p m = true) →
      Sm (finishG b1 p ([p] ++ ownL M) (K.map (collapse val d n (LS val))))
        (finishG b1 p [p] (A.map (collapse val d n (LS val)))) := by
    intro M K hperm hM
    have hleaf : ∀ m ∈ M, m.kids = [] := fun m hm => ((insig_iff E p m).mp (hM m hm)).1
    rw [P18.finishG_absorb b1 p [p] M _ (fun m hm => by
      have := hb1 m (hperm.mem_iff.mpr (List.mem_append_left _ hm))
      rwa [collapse_leaf val d n (LS val) (hleaf m hm), hM m hm, Bool.true_or] at this),
      ← map_collapse_leaves val d n (LS val) hleaf, ← List.map_append]
    exact P18.finishG_perm b1 p [p] (hperm.map _).symm
  rcases joinAdj_cases E p A with ⟨t, hperm, he⟩ | ⟨_, _, he⟩ <;> rw [he]
  · -- `t` grows: on the right the collapsed `t` is the only child left, and is dissolved
    have hM : ∀ m ∈ mergedOf E p A, insig E p m = true := fun m hm => (mergedOf_insig hm).2
    generalize mergedOf E p A = M at hperm hM
    refine P18.Sm.trans ?_ (absorb M [t] (hperm.trans (List.perm_append_comm (l₁ := [t]))) hM)
    rw [List.map_cons, List.map_nil, P18.finishG_single b1 p _ _ (hb1l _),
      collapse_eq val d n (LS val) t, P18.finishG_dissolve, collapse_node]
    exact P18.finishG_own _ _ _ _ List.perm_append_comm
  · -- a new structure over the significant roots, on which `b1` is the test at the level of `p`
    refine P18.Sm.trans ?_ (absorb _ _ (List.filter_append_perm _ A).symm
      fun m hm => (List.mem_filter.mp hm).2)
    rw [collapse_node, P18.finishG_congr (b' := b1) p _ fun c hc => ?_]
    · exact P18.Sm.refl _
    · obtain ⟨t, ht, rfl⟩ := List.mem_map.mp hc
      have := List.mem_filter.mp ht
      rw [hb1 t this.1, (by simpa using this.2 : insig E p t = false), Bool.false_or]

theorem insig_leaf_eq (d : Int) (n : Nat) (p : Nat) {t : Tree} (hk : t.kids = []) (hne : t.own ≠ []) :
    insig (envOf val nbrs (crits d n)) p t = (t.vmax val == val p || failsAt val d n (val p) t) := by
  simp only [insig, envOf, allMerge_leaf val d n hk hne, (isLeaf_iff t).mpr hk, Bool.true_and,
    Bool.not_not]

theorem insig_branch (E : Env) (p : Nat) {t : Tree} (hk : t.kids ≠ []) : insig E p t = false :=
  Bool.eq_false_iff.mpr fun h => hk ((insig_iff E p t).mp h).1

theorem bdAt_branch (d : Int) (n : Nat) (lv : Int) {t : Tree} (hk : t.kids ≠ []) :
    bdAt val d n lv t = false :=
  Bool.eq_false_iff.mpr fun h => hk (bdAt_leaf val d n h)

theorem bdAt_of_leaf (d : Int) (n : Nat) (lv : Int) {t : Tree} (hk : t.kids = []) :
    bdAt val d n lv t = failsAt val d n lv t := by
  simp only [bdAt, (isLeaf_iff t).mpr hk, Bool.true_and]

variable (d0 d1 : Int) (n0 n1 : Nat)

theorem insig_rel (hd : d0 ≤ d1) (hn : n0 ≤ n1) (p : Nat) (t0 t1 : Tree) (hne : t0.own ≠ [])
    (hbr : t0.kids ≠ [] → ∃ x ∈ t0.pixels, val p < val x)
    (hs : Sm (collapse val d1 n1 (LS val) t0) t1) :
    insig (envOf val nbrs (crits d1 n1)) p t1 =
      (insig (envOf val nbrs (crits d0 n0)) p t0 ||
        bdAt val d1 n1 (val p) (collapse val d1 n1 (LS val) t0)) := by
  have hpix : t1.pixels.Perm t0.pixels :=
    (P18.Sm.pixels' hs).trans (collapse_pixels val d1 n1 (LS val) t0)
  rw [bdAt_sim val d1 n1 hs]
  by_cases hk1 : t1.kids = []
  · have hp1 : t1.pixels = t1.own := leaf_pixels hk1
    have hne1 : t1.own ≠ [] := fun e =>
      own_ne_pixels_ne hne (List.nil_perm.mp (by rwa [hp1, e] at hpix))
    rw [insig_leaf_eq val nbrs d1 n1 p hk1 hne1, bdAt_of_leaf val d1 n1 _ hk1]
    by_cases hk0 : t0.kids = []
    · -- a leaf is its own collapse
      rw [collapse_leaf val d1 n1 (LS val) hk0] at hs
      have hv : t1.vmax val = t0.vmax val := vmax_perm val (P18.Sm.own' hs)
      rw [insig_leaf_eq val nbrs d0 n0 p hk0 hne, hv]
      -- failing the loose test, the leaf fails the strict one
      cases h0 : failsAt val d0 n0 (val p) t0 with
      | false => rw [Bool.or_false]
      | true =>
        rw [← failsAt_sim val d1 n1 hs, failsAt_mono val d0 n0 hd hn h0, Bool.or_true, Bool.or_true]
    · -- a branch collapsed to a leaf: its peak is above the level of `p`
      rw [insig_branch _ p hk0, Bool.false_or]
      obtain ⟨x, hx, hlt⟩ := hbr hk0
      have := le_vmax val t1 x (hp1 ▸ hpix.symm.subset hx)
      rw [beq_false_of_ne (by omega), Bool.false_or]
  · have hk0 : t0.kids ≠ [] := by
      intro hk0
      rw [collapse_leaf val d1 n1 (LS val) hk0] at hs
      exact hk1 ((P18.Sm.kids_nil hs).mp hk0)
    rw [insig_branch _ p hk1, insig_branch _ p hk0, bdAt_branch val d1 n1 _ hk1]
    rfl

/-- the simulation relation on roots: the strict root is the collapsed loose root -/
abbrev RC (t0 t1 : Tree) : Prop := Sm (collapse val d1 n1 (LS val) t0) t1

theorem rc_iff {l l' : List Tree} :
    PR (RC val d1 n1) l l' ↔ SmL (l.map (collapse val d1 n1 (LS val))) l' := by
  show _ ↔ SimL (fun p => p) _ _
  rw [P10.simL_iff]; exact P10.PR.map (S := Sm) (collapse val d1 n1 (LS val))

theorem joinAdj_rel {A0 A1 : List Tree} {p : Nat}
    (hA : PR (RC val d1 n1) A0 A1)
    (hins : ∀ t0 ∈ A0, ∀ t1, RC val d1 n1 t0 t1 →
      insig (envOf val nbrs (crits d1 n1)) p t1 =
        (insig (envOf val nbrs (crits d0 n0)) p t0 ||
          bdAt val d1 n1 (val p) (collapse val d1 n1 (LS val) t0))) :
    RC val d1 n1 (joinAdj (envOf val nbrs (crits d0 n0)) p A0)
      (joinAdj (envOf val nbrs (crits d1 n1)) p A1) := by
  generalize envOf val nbrs (crits d0 n0) = E0 at *
  generalize envOf val nbrs (crits d1 n1) = E1 at *
  have h2 : Sm (collapse val d1 n1 (LS val) (joinAdj E0 p A0))
      (finishG (insig E1 p) p [p] (A0.map (collapse val d1 n1 (LS val)))) :=
    collapse_joinAdj val d1 n1 E0 (insig E1 p) p A0
      (fun c h => ((insig_iff E1 p c).mp h).1)
      (fun t ht => hins t ht _ (P18.Sm.refl _))
  have h3 : Sm (finishG (insig E1 p) p [p] (A0.map (collapse val d1 n1 (LS val))))
      (finishG (insig E1 p) p [p] A1) := by
    apply P18.finishG_sim (List.Perm.refl _) ((rc_iff val d1 n1).mp hA)
    intro c hc c' hcc
    obtain ⟨t0, ht0, rfl⟩ := List.mem_map.mp hc
    rw [hins t0 ht0 c' hcc, hins t0 ht0 _ (P18.Sm.refl _)]
  exact (h2.trans h3).trans (P18.joinAdj_finishG E1 p A1).symm

theorem touches_rel {E0 E1 : Env} (hnb : E0.nbrs = E1.nbrs) {p : Nat} {t0 t1 : Tree}
    (h : RC val d1 n1 t0 t1) : touches E0 p t0 = touches E1 p t1 := by
  have hpix : t1.pixels.Perm t0.pixels :=
    (P18.Sm.pixels' h).trans (collapse_pixels val d1 n1 (LS val) t0)
  rw [Bool.eq_iff_iff, touches_iff, touches_iff, hnb]
  simp only [hpix.mem_iff]

theorem step_rel (hd : d0 ≤ d1) (hn : n0 ≤ n1) {roots0 roots1 : List Tree} {p : Nat}
    (hne : ∀ t ∈ roots0, t.own ≠ [])
    (hbr : ∀ t ∈ roots0, t.kids ≠ [] → ∃ x ∈ t.pixels, val p < val x)
    (hR : PR (RC val d1 n1) roots0 roots1) :
    PR (RC val d1 n1) (step (envOf val nbrs (crits d0 n0)) roots0 p)
      (step (envOf val nbrs (crits d1 n1)) roots1 p) :=
  P10.step_pr hR (fun _ _ _ h => touches_rel val d1 n1 rfl h) fun hA hsub =>
    joinAdj_rel val nbrs d0 d1 n0 n1 hA fun t0 ht0 t1 h =>
      insig_rel val nbrs d0 d1 n0 n1 hd hn p t0 t1 (hne t0 (hsub t0 ht0)) (hbr t0 (hsub t0 ht0)) h

theorem run_collapse (hd : d0 ≤ d1) (hn : n0 ≤ n1) (order : List Nat)
    (hsorted : order.Pairwise (fun a b => val b ≤ val a)) :
    SmL ((run (envOf val nbrs (crits d0 n0)) order).map (collapse val d1 n1 (LS val)))
      (run (envOf val nbrs (crits d1 n1)) order) :=
  (rc_iff val d1 n1).mp <| run_prefix_induction (envOf val nbrs (crits d0 n0)) order
    (fun pre roots0 => PR (RC val d1 n1) roots0 (run (envOf val nbrs (crits d1 n1)) pre)) P10.PR.nil
    fun pre p _ ho ih => by
      rw [run_snoc]
      refine step_rel val nbrs d0 d1 n0 n1 hd hn
        (fun t ht => run_own_nonempty _ pre t (mem_preL_of_mem ht)) (fun t ht hk => ?_) ih
      -- a branch is brighter than its creating pixel, which is no fainter than `p`
      have htp := mem_preL_of_mem ht
      obtain ⟨x, hx, hlt⟩ := P18.run_branch_bright (envOf val nbrs (crits d0 n0)) pre
        (hsorted.sublist (ho ▸ List.sublist_append_left pre _)) t htp hk
      exact ⟨x, hx, Int.lt_of_le_of_lt (sorted_at ho hsorted t.id (run_ids_subset _ pre t htp)) hlt⟩

end RunSide

theorem origLevels_eq (val : Nat → Int) :
    (∀ t : Tree, origLevelsT val t =
      (pre t).flatMap fun P => P.kids.map fun c => (c.id, val (P.own.headD 0))) ∧
    (∀ l : List Tree, origLevelsL val l =
      (preL l).flatMap fun P => P.kids.map fun c => (c.id, val (P.own.headD 0))) := by
  apply Tree.forest_induction
  · intro i o ks ih
    rw [origLevelsT, ih, pre, List.flatMap_cons]; rfl
  · rfl
  · intro t ts h1 h2
    rw [origLevelsL, h1, h2, preL_cons, List.flatMap_append]

/-- the keys of the table are the identifiers of the children, each once -/
theorem lookup_orig (val : Nat → Int) (f : List Tree) (hids : IdsNodup f) :
    ∀ P ∈ preL f, ∀ k ∈ P.kids,
      lookupLevel (origLevelsL val f) k.id = some (val (P.own.headD 0)) := by
  intro P hP k hk
  have hkeys : (origLevelsL val f).map (·.1) = ((preL f).flatMap Tree.kids).map Tree.id := by
    rw [(origLevels_eq val).2, List.map_flatMap, List.map_flatMap]
    simp [Function.comp_def]
  have hnd := ((preL_perm_roots_kids.2 f).map Tree.id).nodup_iff.1 hids
  rw [List.map_append, ← hkeys] at hnd
  refine (List.find?_key_eq_some_iff (List.nodup_append.1 hnd).2.1 _ _).2 ?_
  rw [(origLevels_eq val).2]
  exact List.mem_flatMap.mpr ⟨P, hP, List.mem_map.mpr ⟨k, hk, rfl⟩⟩

theorem loose_idsNodup (E : Env) (order : List Nat) (hnd : order.Nodup) :
    IdsNodup (makeTrunk E (run E order)) :=
  trunk_ids_nodup _ _ (run_ids_nodup E order hnd)

theorem lookup_loose (val : Nat → Int) (E : Env) (order : List Nat) (hnd : order.Nodup) :
    ∀ P ∈ preL (makeTrunk E (run E order)), ∀ k ∈ P.kids,
      lookupLevel (origLevelsL val (makeTrunk E (run E order))) k.id = some (val P.id) := by
  intro P hP k hk
  rw [lookup_orig val _ (loose_idsNodup E order hnd) P hP k hk]
  obtain ⟨rest, e⟩ := run_head_id E order P (makeTrunk_nodes_subset E _ P hP)
  rw [e]; rfl

/-- the default is never used: every child has an entry -/
def levOf (tbl : List (Nat × Int)) (i : Nat) : Int := (lookupLevel tbl i).getD 0

abbrev LP (tbl : List (Nat × Int)) : Nat → Nat → Int := fun _ j => levOf tbl j

section PruneSide
variable (val : Nat → Int) (tbl : List (Nat × Int)) (d : Int) (n : Nat)

abbrev HasLev (i : Nat) : Prop := ∃ lv, lookupLevel tbl i = some lv

theorem allChildOrig_leaf_eq {P k : Tree} (hl : k.kids = []) (hne : k.own ≠ []) (hlev : HasLev tbl k.id) :
    allChildOrig val tbl (crits d n) P k = !bdAt val d n (levOf tbl k.id) k := by
  obtain ⟨lv, hlv⟩ := hlev
  rw [bdAt_of_leaf val d n _ hl, levOf, hlv, Option.getD_some, ← allMerge_leaf val d n hl hne 0]
  exact allChildOrig_eq_allMerge val d n hlv 0

theorem collapse_pruneAt_one (i : Nat) (o : List Nat) (a b : List Tree) (k : Tree)
    (hl : k.kids = []) (hf : bdAt val d n (levOf tbl k.id) k = true) :
    Sm (collapse val d n (LP tbl) (node i (o ++ k.own) (a ++ b)))
      (collapse val d n (LP tbl) (node i o (a ++ k :: b))) := by
  rw [collapse_node, collapse_node, List.map_append, List.map_append, List.map_cons,
    collapse_leaf val d n (LP tbl) hl]
  have h1 := P18.finishG_absorb (bdL val d n (LP tbl) i) i o [k]
    (a.map (collapse val d n (LP tbl)) ++ b.map (collapse val d n (LP tbl))) (by simpa using hf)
  rw [show ownL [k] = k.own by simp [ownL]] at h1
  rw [h1, List.singleton_append]
  exact P18.finishG_perm _ i o List.perm_middle.symm

/-- the bad leaf is absorbed, the other child is then an only child -/
theorem collapse_pruneAt_two (i : Nat) (o : List Nat) (x y k : Tree)
    (hk : k ∈ [x, y]) (hl : k.kids = []) (hf : bdAt val d n (levOf tbl k.id) k = true) :
    Sm (collapse val d n (LP tbl) (node i (o ++ x.own ++ y.own) (x.kids ++ y.kids)))
      (collapse val d n (LP tbl) (node i o [x, y])) := by
  simp only [List.mem_cons, List.not_mem_nil, or_false] at hk
  rcases hk with rfl | rfl
  · rw [hl, List.nil_append, collapse_only_child val d n (LP tbl) i _ y (fun _ => rfl)]
    exact collapse_pruneAt_one val tbl d n i o [] [y] k hl hf
  · rw [hl, List.append_nil]
    refine (collapse_own_perm val d n (LP tbl) i x.kids (o' := o ++ k.own ++ x.own) ?_).trans ?_
    · simp only [List.append_assoc]; exact List.perm_append_comm.append_left o
    · rw [collapse_only_child val d n (LP tbl) i _ x (fun _ => rfl)]
      exact collapse_pruneAt_one val tbl d n i o [x] [] k hl hf

/-- the rule that `allChildOrig` is on the forests the loop visits (`pruneLoop_orig_eq_lev`) -/
abbrev icLev (_ k : Tree) : Bool := !bdAt val d n (levOf tbl k.id) k

theorem pruneLoop_orig_eq_lev (k : Nat) (f : List Tree) (hids : IdsNodup f)
    (hpix : ∀ s ∈ preL f, s.pixels ≠ []) (hlev : ∀ P ∈ preL f, ∀ k ∈ P.kids, HasLev tbl k.id) :
    pruneLoop (allChildOrig val tbl (crits d n)) k f = pruneLoop (icLev val tbl d n) k f :=
  pruneLoop_congr
    (I := fun g => (∀ s ∈ preL g, s.pixels ≠ []) ∧ ∀ P ∈ preL g, ∀ k ∈ P.kids, HasLev tbl k.id)
    (fun _ _ hg h hs => ⟨hs.pixels_ne hg h.1,
      hs.forall_kids (R := fun k => HasLev tbl k.id) (fun _ _ e _ h => e ▸ h) hg h.2⟩)
    (fun _ h P hP k hk hl =>
      allChildOrig_leaf_eq val tbl d n hl (leaf_pixels hl ▸ h.1 k (kid_mem_preL hP hk)) (h.2 P hP k hk))
    k f hids ⟨hpix, hlev⟩

abbrev SmId (c' c : Tree) : Prop := Sm c' c ∧ c'.id = c.id

/-- `SmId`, not `Sm`: the test of a child looks its level up by identifier -/
theorem step_collapse {f f' : List Tree} (h : Prune.Step (icLev val tbl d n) f f')
    (hids : IdsNodup f) :
    F2 SmId (f'.map (collapse val d n (LP tbl))) (f.map (collapse val d n (LP tbl))) := by
  refine h.ind_nodup (M := fun f f' => F2 SmId (f'.map (collapse val d n (LP tbl)))
    (f.map (collapse val d n (LP tbl)))) ?_ ?_ ?_ ?_ hids
  · intro i o a k b hl hic _ _
    exact .cons ⟨collapse_pruneAt_one val tbl d n i o a b k hl (by simpa using hic),
      by simp only [collapse_id]; rfl⟩ .nil
  · intro i o x y k hk hl hic _
    exact .cons ⟨collapse_pruneAt_two val tbl d n i o x y k hk hl (by simpa using hic),
      by simp only [collapse_id]; rfl⟩ .nil
  · intro i o ks ks' _ _ ih
    refine .cons ⟨?_, by simp only [collapse_id]; rfl⟩ .nil
    rw [collapse_node, collapse_node]
    refine P18.finishG_simR (R := SmId) (fun _ _ h => h.1) (by simp) ih.pr ?_
    intro c _ c' hcc
    simp only [bdL, hcc.2]
    exact bdAt_sim val d n hcc.1
  · intro a b l l' _ _ ih
    simp only [List.map_append]
    have hr : ∀ l : List Tree, F2 SmId l l :=
      fun l => .refl l fun c _ => ⟨P18.Sm.refl c, rfl⟩
    exact ((hr _).append ih).append (hr _)

theorem collapse_fix (t : Tree)
    (hfix : ∀ P ∈ pre t, ∀ k ∈ P.kids, k.kids = [] → icLev val tbl d n P k = true)
    (har : ∀ P ∈ pre t, PArity P) : Sm t (collapse val d n (LP tbl) t) := by
  induction t using Tree.ind with
  | h i o ks ih =>
    have hk1 : ∀ k ∈ ks, Sm k (collapse val d n (LP tbl) k) := fun k hk =>
      ih k hk (fun P hP => hfix P (pre_subset_pre (kid_mem_pre hk) P hP))
        fun P hP => har P (pre_subset_pre (kid_mem_pre hk) P hP)
    have hgood : ∀ c ∈ ks.map (collapse val d n (LP tbl)), bdL val d n (LP tbl) i c = false := by
      intro c hc
      obtain ⟨k, hk, rfl⟩ := List.mem_map.mp hc
      by_cases hl : k.kids = []
      · rw [collapse_leaf val d n (LP tbl) hl]
        simpa using hfix _ (mem_pre_self _) k hk hl
      · exact bdAt_branch val d n _ fun e => hl ((P18.Sm.kids_nil (hk1 k hk)).mpr e)
    have hlen : (ks.map (collapse val d n (LP tbl))).length ≠ 1 := by
      have := har _ (mem_pre_self _)
      simp only [PArity, kids_node] at this
      rcases this with rfl | h2
      · simp
      · rw [List.length_map]; omega
    rw [collapse_node, P18.finishG_none _ i o hgood hlen]
    exact P18.Sm.of' (.refl _) (P18.SmL.map hk1)

theorem pruneLoop_eq_collapse (f : List Tree) (hids : IdsNodup f) (har : ∀ s ∈ preL f, PArity s) :
    SmL (pruneLoop (icLev val tbl d n) (sizeL f) f) (f.map (collapse val d n (LP tbl))) := by
  have hloop := (pruneLoop_induction
    (I := fun g => SmL (g.map (collapse val d n (LP tbl))) (f.map (collapse val d n (LP tbl))))
    (fun _ _ hg h hs => P18.SmL.trans (P10.simL_iff.mpr
      ((step_collapse val tbl d n hs hg).pr.mono fun _ _ h => h.1)) h)
    (sizeL f) f hids (P18.SmL.refl _)).2
  have hfix := (pruneForest_none_iff _ _).mp
    (pruneLoop_fixpoint_of_le (icLev val tbl d n) _ f (Nat.le_refl _))
  have harL := pruneLoop_arity (icLev val tbl d n) (sizeL f) f hids har
  refine P18.SmL.trans (P18.SmL.map fun t ht => collapse_fix val tbl d n t ?_ ?_) hloop
  · exact fun P hP => hfix P (mem_preL.2 ⟨t, ht, hP⟩)
  · exact fun P hP => harL P (mem_preL.2 ⟨t, ht, hP⟩)

end PruneSide

section Trunk
variable (val : Nat → Int)

/-- the `_make_trunk` filter with `min_delta = d`, `min_npix = n` -/
abbrev keepT (d : Int) (n : Nat) (t : Tree) : Bool := !(t.isLeaf && !allOrphan val (crits d n) t)

theorem orphan_sim (d : Int) (n : Nat) {t t' : Tree} (h : Sm t t') :
    allOrphan val (crits d n) t = allOrphan val (crits d n) t' := by
  simp only [allOrphan, crits, List.all_cons, List.all_nil, Crit.orphan,
    vmax_perm val (P18.Sm.own' h), vmin_perm val (P18.Sm.own' h), (P18.Sm.pixels' h).length_eq]

theorem keepT_sim (d : Int) (n : Nat) {t t' : Tree} (h : Sm t t') :
    keepT val d n t = keepT val d n t' := by
  unfold keepT
  rw [P10.Sim.isLeaf h, orphan_sim val d n h]

theorem keepT_mono {d0 d1 : Int} {n0 n1 : Nat} (hd : d0 ≤ d1) (hn : n0 ≤ n1) {t : Tree}
    (h : keepT val d1 n1 t = true) : keepT val d0 n0 t = true := by
  unfold keepT at *
  cases hl : t.isLeaf with
  | false => rfl
  | true =>
    simp only [hl, Bool.true_and, Bool.not_not, allOrphan, crits, List.all_cons, List.all_nil,
      Crit.orphan, Bool.and_true, Bool.and_eq_true, decide_eq_true_eq] at h ⊢
    omega

theorem trunk_sim (d : Int) (n : Nat) {l l' : List Tree} (h : SmL l l') :
    SmL ((sortById l).filter (keepT val d n)) ((sortById l').filter (keepT val d n)) :=
  P10.SimL.filter ((h.perm_left (sortById_perm l).symm).perm_right (sortById_perm l').symm)
    fun _ _ _ hxy => keepT_sim val d n hxy

/-- a trunk step `p`, a map `c`, a trunk step `q`: the first step is subsumed when `q ∘ c` drops
whatever `p` drops -/
theorem trunk_subsumed {p q : Tree → Bool} {c : Tree → Tree} (l : List Tree)
    (h : ∀ t ∈ l, q (c t) = true → p t = true) :
    ((sortById (((sortById l).filter p).map c)).filter q).Perm ((sortById (l.map c)).filter q) := by
  refine ((sortById_perm _).filter _).trans (.trans ?_ ((sortById_perm _).filter _).symm)
  rw [List.filter_map, List.filter_map, List.filter_filter]
  refine .trans (.of_eq (congrArg _ (List.filter_congr fun t ht => ?_))) (((sortById_perm l).filter _).map c)
  show (q (c t) && p t) = q (c t)
  cases hq : q (c t) with
  | false => rfl
  | true => exact (Bool.true_and _).trans (h t (mem_sortById.mp ht) hq)

end Trunk

section Main
variable (val : Nat → Int) (nbrs : Nat → List Nat) (order : List Nat) (d0 d1 : Int) (n0 n1 : Nat)

theorem childOrig_eq_merge (E : Env) (hnd : order.Nodup) (d : Int) (n : Nat) :
    ∀ P ∈ preL (makeTrunk E (run E order)), ∀ c ∈ P.kids,
      allChildOrig val (origLevelsL val (makeTrunk E (run E order))) [Crit.minDelta d, Crit.minNpix n]
        P c = allMerge val [Crit.minDelta d, Crit.minNpix n] c P.id (val P.id) :=
  fun P hP c hc => allChildOrig_eq_allMerge val d n (lookup_loose val E order hnd P hP c hc) P.id

/-- `C08_full` -/
theorem pruneOrig_eq_compute (hnd : order.Nodup)
    (hsorted : order.Pairwise (fun a b => val b ≤ val a)) (hd : d0 ≤ d1) (hn : n0 ≤ n1) :
    P10.SimL (fun p => p)
      (prune
        (allChildOrig val
          (origLevelsL val
            (makeTrunk (envOf val nbrs [Crit.minDelta d0, Crit.minNpix n0])
              (run (envOf val nbrs [Crit.minDelta d0, Crit.minNpix n0]) order)))
          [Crit.minDelta d1, Crit.minNpix n1])
        (allOrphan val [Crit.minDelta d1, Crit.minNpix n1])
        (makeTrunk (envOf val nbrs [Crit.minDelta d0, Crit.minNpix n0])
          (run (envOf val nbrs [Crit.minDelta d0, Crit.minNpix n0]) order)))
      (makeTrunk (envOf val nbrs [Crit.minDelta d1, Crit.minNpix n1])
        (run (envOf val nbrs [Crit.minDelta d1, Crit.minNpix n1]) order)) := by
  have hB := run_collapse val nbrs d0 d1 n0 n1 hd hn order hsorted
  have hio : (envOf val nbrs (crits d0 n0)).indepOrphan = allOrphan val (crits d0 n0) := rfl
  generalize envOf val nbrs (crits d0 n0) = E0 at *
  have hkey := lookup_loose val E0 order hnd
  have hids := loose_idsNodup E0 order hnd
  have hsub := makeTrunk_nodes_subset E0 (run E0 order)
  -- the loop on the loose trunk computes its collapse, at the looked-up levels (`makeTrunk_run_arity`
  -- speaks of `Arity`, which unfolds to the same as `PArity`)
  have hA := pruneLoop_eq_collapse val (origLevelsL val (makeTrunk E0 (run E0 order))) d1 n1 _ hids
    (makeTrunk_run_arity E0 order)
  rw [← pruneLoop_orig_eq_lev val _ d1 n1 _ _ hids
    (fun s hs => own_ne_pixels_ne (run_own_nonempty E0 order s (hsub s hs)))
    (fun P hP k hk => ⟨_, hkey P hP k hk⟩)] at hA
  -- which are the levels of the run
  rw [List.map_congr_left fun t ht => collapse_congr val d1 n1 _ (LS val) t fun P hP k hk => by
    simp only [LP, LS, levOf, hkey P (mem_preL.2 ⟨t, ht, hP⟩) k hk, Option.getD_some]] at hA
  -- the loose trunk step is subsumed by the strict one: a leaf is its own collapse
  refine ((trunk_sim val d1 n1 hA).trans (P18.SmL.of_perm (trunk_subsumed _ fun t _ h1 => ?_))).trans
    (trunk_sim val d1 n1 hB)
  cases hl : t.isLeaf with
  | false => rfl
  | true =>
    rw [collapse_leaf val d1 n1 (LS val) ((isLeaf_iff t).mp hl)] at h1
    have h0 := keepT_mono val hd hn h1
    rwa [keepT, hl, ← hio] at h0

end Main

end P28
