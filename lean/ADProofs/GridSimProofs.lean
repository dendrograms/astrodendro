import ADProofs.GridProofs
import ADProofs.SimProofs

/-!
# ADProofs.GridSimProofs — the grid transformations of C16 / C17 satisfy the hypotheses of the
equivariance theorem

A coordinate map `g` between two shapes is lifted to flat indices by `liftC`.  All transformations (cyclic shift, flip,
unit axis, padding, axis permutation) are instances of one notion, `AxisMap`.  Such a map preserves the coordinate
adjacency and is injective, so `liftC g` does the same on flat indices, and `AxisMap.invariance` feeds that to
`P10.run_sim_builtin_rename`.  What each instance needs about one axis is in GridProofs.
-/
open Tree GridProofs

def shiftC (shape : List Nat) (a k : Nat) (c : List Nat) : List Nat :=
  c.set a ((c.getD a 0 + k) % shape.getD a 0)

namespace P19

def liftC (shape shape' : List Nat) (g : List Nat → List Nat) (p : Nat) : Nat :=
  Grid.ravel shape' (g (Grid.unravel shape p))

theorem ravel_inj (shape c d : List Nat) (hc : InRange shape c) (hd : InRange shape d)
    (h : Grid.ravel shape c = Grid.ravel shape d) : c = d := by
  rw [← unravel_ravel shape c hc, ← unravel_ravel shape d hd, h]

theorem liftC_lt (shape shape' : List Nat) (g : List Nat → List Nat)
    (hg_range : ∀ c, InRange shape c → InRange shape' (g c))
    (p : Nat) (hp : p < Grid.size shape) : liftC shape shape' g p < Grid.size shape' :=
  ravel_lt shape' _ (hg_range _ (unravel_inRange shape p hp))

/-- a coordinate map that relabels the axes by `β`, acts on axis `b` by `f b` (`get`), and is constant on the axes
of the target outside the image of `β` (`rest`), with a value that is not its own neighbour there: two images that
agree on all image axes are equal, and they must not be neighbours along such an extra axis (on a periodic axis of
length 1 the one cell is its own neighbour, so a unit axis that is inserted has to be non-periodic) -/
structure AxisMap (shape shape' periodic periodic' : List Nat) (g : List Nat → List Nat)
    (β : Nat → Nat) (f : Nat → Nat → Nat) : Prop where
  range : ∀ c, InRange shape c → InRange shape' (g c)
  β_lt : ∀ b, b < shape.length → β b < shape'.length
  β_inj : ∀ b b', b < shape.length → b' < shape.length → β b = β b' → b = b'
  get : ∀ c b, InRange shape c → b < shape.length → (g c).getD (β b) 0 = f b (c.getD b 0)
  f_inj : ∀ b x y, b < shape.length → x < shape.getD b 0 → y < shape.getD b 0 →
    f b x = f b y → x = y
  f_adj : ∀ b x y, b < shape.length → x < shape.getD b 0 → y < shape.getD b 0 →
    (y ∈ Grid.axisNbrs (shape.getD b 0) (periodic.contains b) x ↔
      f b y ∈ Grid.axisNbrs (shape'.getD (β b) 0) (periodic'.contains (β b)) (f b x))
  rest : ∀ i', i' < shape'.length → (∃ b, b < shape.length ∧ β b = i') ∨
    (∀ c d, InRange shape c → InRange shape d → (g d).getD i' 0 = (g c).getD i' 0 ∧
      (g c).getD i' 0 ∉
        Grid.axisNbrs (shape'.getD i' 0) (periodic'.contains i') ((g c).getD i' 0))

section
variable {shape shape' periodic periodic' : List Nat} {g : List Nat → List Nat}
  {β : Nat → Nat} {f : Nat → Nat → Nat} (H : AxisMap shape shape' periodic periodic' g β f)
include H

theorem AxisMap.coord_inj (c d : List Nat) (hc : InRange shape c) (hd : InRange shape d) (h : g c = g d) : c = d := by
  refine List.ext_getD 0 (by rw [hc.1, hd.1]) fun i hi => ?_
  have hi : i < shape.length := hc.1 ▸ hi
  apply H.f_inj i _ _ hi (hc.2 i hi) (hd.2 i hi)
  rw [← H.get c i hc hi, ← H.get d i hd hi, h]

theorem AxisMap.coord_adj (c d : List Nat) (hc : InRange shape c) (hd : InRange shape d) :
    d ∈ Grid.nbrsC shape periodic c ↔ g d ∈ Grid.nbrsC shape' periodic' (g c) := by
  rw [nbrsC_mem_pointwise shape periodic c d hc hd,
    nbrsC_mem_pointwise shape' periodic' _ _ (H.range c hc) (H.range d hd)]
  constructor
  · rintro ⟨b, hb, hne, hax⟩
    refine ⟨β b, H.β_lt b hb, fun i' hl hi' => ?_, ?_⟩
    · rcases H.rest i' hl with ⟨i, hi, rfl⟩ | hconst
      · rw [H.get c i hc hi, H.get d i hd hi, hne i hi (fun e => hi' (e ▸ rfl))]
      · exact (hconst c d hc hd).1
    · rw [H.get c b hc hb, H.get d b hd hb]
      exact (H.f_adj b _ _ hb (hc.2 b hb) (hd.2 b hb)).mp hax
  · rintro ⟨b', hb', hne, hax⟩
    rcases H.rest b' hb' with ⟨b, hb, rfl⟩ | hconst
    · refine ⟨b, hb, fun i hl hi => ?_, ?_⟩
      · apply H.f_inj i _ _ hl (hd.2 i hl) (hc.2 i hl)
        rw [← H.get c i hc hl, ← H.get d i hd hl]
        exact hne (β i) (H.β_lt i hl) (fun e => hi (H.β_inj i b hl hb e))
      · rw [H.get c b hc hb, H.get d b hd hb] at hax
        exact (H.f_adj b _ _ hb (hc.2 b hb) (hd.2 b hb)).mpr hax
    · obtain ⟨h1, h2⟩ := hconst c d hc hd
      rw [h1] at hax
      exact absurd hax h2

theorem AxisMap.hadj (p q : Nat) (hp : p < Grid.size shape) (hq : q < Grid.size shape) :
    q ∈ Grid.nbrs shape periodic p ↔
      liftC shape shape' g q ∈ Grid.nbrs shape' periodic' (liftC shape shape' g p) := by
  have hc := unravel_inRange shape p hp
  have hd := unravel_inRange shape q hq
  rw [nbrs_iff hp, nbrs_iff (liftC_lt shape shape' g H.range p hp), and_iff_right hq,
    and_iff_right (liftC_lt shape shape' g H.range q hq), H.coord_adj _ _ hc hd]
  unfold liftC
  rw [unravel_ravel shape' _ (H.range _ hc), unravel_ravel shape' _ (H.range _ hd)]

theorem AxisMap.inj (p q : Nat) (hp : p < Grid.size shape) (hq : q < Grid.size shape)
    (h : liftC shape shape' g p = liftC shape shape' g q) : p = q := by
  have hc := unravel_inRange shape p hp
  have hd := unravel_inRange shape q hq
  have h1 := H.coord_inj _ _ hc hd (ravel_inj shape' _ _ (H.range _ hc) (H.range _ hd) h)
  rw [← ravel_unravel shape p hp, ← ravel_unravel shape q hq, h1]

end

/-- the data of run 2 on the image pixels are the data of run 1, so the forests the two loops build are similar -/
theorem AxisMap.invariance {shape shape' periodic periodic' : List Nat} {g : List Nat → List Nat}
    {β : Nat → Nat} {f : Nat → Nat → Nat} (H : AxisMap shape shape' periodic periodic' g β f)
    (val : Nat → Int) (order : List Nat) (cs : List Crit)
    (horder : ∀ p ∈ order, p < Grid.size shape)
    (hseeds : ∀ c ∈ cs, ∀ s ∈ P10.seedsOf c, s < Grid.size shape)
    (val' : Nat → Int) (hval : ∀ p ∈ order, val' (liftC shape shape' g p) = val p) :
    P10.SimL (liftC shape shape' g)
      (run (envOf val (Grid.nbrs shape periodic) cs) order)
      (run (envOf val' (Grid.nbrs shape' periodic')
        (cs.map (P10.critRename (liftC shape shape' g)))) (order.map (liftC shape shape' g))) :=
  P10.run_sim_builtin_rename val val' _ _ _ order hval
    (fun p hp q hq => H.hadj p q (horder p hp) (horder q hq)) cs
    (fun c hc s hs x hx e => H.inj x s (horder x hx) (hseeds c hc s hs) e)

theorem axisMap_set (shape periodic : List Nat) (a : Nat) (φ : Nat → Nat)
    (hφ_lt : ∀ x, x < shape.getD a 0 → φ x < shape.getD a 0)
    (hφ_inj : ∀ x y, x < shape.getD a 0 → y < shape.getD a 0 → φ x = φ y → x = y)
    (hφ_adj : ∀ x y, x < shape.getD a 0 → y < shape.getD a 0 →
      (y ∈ Grid.axisNbrs (shape.getD a 0) (periodic.contains a) x ↔
        φ y ∈ Grid.axisNbrs (shape.getD a 0) (periodic.contains a) (φ x))) :
    AxisMap shape shape periodic periodic (fun c => c.set a (φ (c.getD a 0))) (fun b => b)
      (fun b x => if b = a then φ x else x) where
  range := by
    intro c hc
    by_cases ha : a < shape.length
    · exact inRange_set hc (hφ_lt _ (hc.2 a ha))
    · rw [List.set_eq_of_length_le (hc.1 ▸ Nat.le_of_not_lt ha)]
      exact hc
  β_lt := fun b hb => hb
  β_inj := fun b b' _ _ h => h
  get := by
    intro c b hc hb
    show (c.set a _).getD b 0 = _
    by_cases h : b = a
    · subst h
      rw [List.getD_set_self c b _ (hc.1 ▸ hb), if_pos rfl]
    · rw [List.getD_set_ne c a b _ (Ne.symm h), if_neg h]
  f_inj := by
    intro b x y hb hx hy
    split
    next h => subst h; exact hφ_inj x y hx hy
    next => exact id
  f_adj := by
    intro b x y hb hx hy
    split
    next h => subst h; exact hφ_adj x y hx hy
    next => rfl
  rest := fun i' hi' => Or.inl ⟨i', hi', rfl⟩

theorem shift_axisMap (shape periodic : List Nat) (a k : Nat)
    (ha : periodic.contains a = true) :
    AxisMap shape shape periodic periodic (shiftC shape a k) (fun b => b)
      (fun b x => if b = a then (x + k) % shape.getD a 0 else x) :=
  axisMap_set shape periodic a (fun x => (x + k) % shape.getD a 0)
    (fun _ hx => Nat.mod_lt _ (Nat.zero_lt_of_lt hx))
    (fun _ _ => shift_inj)
    (fun x y hx hy => by rw [ha]; exact axis_shift _ k x y hx hy)

theorem shift_hadj (shape periodic : List Nat) (a k : Nat) (ha : periodic.contains a = true)
    (p q : Nat) (hp : p < Grid.size shape) (hq : q < Grid.size shape) :
    q ∈ Grid.nbrs shape periodic p ↔
      liftC shape shape (shiftC shape a k) q ∈
        Grid.nbrs shape periodic (liftC shape shape (shiftC shape a k) p) :=
  (shift_axisMap shape periodic a k ha).hadj p q hp hq

theorem shift_inj_flat (shape periodic : List Nat) (a k : Nat) (ha : periodic.contains a = true)
    (p q : Nat) (hp : p < Grid.size shape) (hq : q < Grid.size shape)
    (h : liftC shape shape (shiftC shape a k) p = liftC shape shape (shiftC shape a k) q) :
    p = q :=
  (shift_axisMap shape periodic a k ha).inj p q hp hq h

def flipC (shape : List Nat) (a : Nat) (c : List Nat) : List Nat :=
  c.set a (shape.getD a 0 - 1 - c.getD a 0)

theorem flip_axisMap (shape periodic : List Nat) (a : Nat) :
    AxisMap shape shape periodic periodic (flipC shape a) (fun b => b)
      (fun b x => if b = a then shape.getD a 0 - 1 - x else x) :=
  axisMap_set shape periodic a (fun x => shape.getD a 0 - 1 - x)
    (fun _ => Nat.sub_one_sub_lt)
    (fun x y hx hy h => by omega)
    (axis_flip _ _)

theorem flip_hadj (shape periodic : List Nat) (a : Nat)
    (p q : Nat) (hp : p < Grid.size shape) (hq : q < Grid.size shape) :
    q ∈ Grid.nbrs shape periodic p ↔
      liftC shape shape (flipC shape a) q ∈
        Grid.nbrs shape periodic (liftC shape shape (flipC shape a) p) :=
  (flip_axisMap shape periodic a).hadj p q hp hq

def insC (j : Nat) (c : List Nat) : List Nat := c.take j ++ [0] ++ c.drop j

def insShape (j : Nat) (shape : List Nat) : List Nat := shape.take j ++ [1] ++ shape.drop j

/-- axis `x` of the old grid is axis `insAxis j x` of the new one -/
def insAxis (j x : Nat) : Nat := if x ≥ j then x + 1 else x

theorem length_ins (j v : Nat) (l : List Nat) :
    (l.take j ++ [v] ++ l.drop j).length = l.length + 1 := by
  rw [List.append_assoc, List.singleton_append, List.perm_middle.length_eq, List.length_cons,
    List.take_append_drop]

theorem insAxis_inj (j x y : Nat) (h : insAxis j x = insAxis j y) : x = y := by
  unfold insAxis at h
  split at h <;> split at h <;> omega

theorem insAxis_ne (j x : Nat) : insAxis j x ≠ j := by
  unfold insAxis
  split <;> omega

theorem getD_insAxis (j v : Nat) (l : List Nat) (hj : j ≤ l.length) (b : Nat) :
    (l.take j ++ [v] ++ l.drop j).getD (insAxis j b) 0 = l.getD b 0 := by
  have hlen : (l.take j ++ [v]).length = j + 1 := by simp [Nat.min_eq_left hj]
  unfold insAxis
  simp only [List.getD_eq_getElem?_getD]
  split
  next h =>
    rw [List.getElem?_append_right (hlen ▸ Nat.succ_le_succ h), List.getElem?_drop, hlen,
      Nat.add_sub_add_right, Nat.add_sub_cancel' h]
  next h =>
    have h := Nat.lt_of_not_le h
    rw [List.append_assoc, List.getElem?_append_left (by rwa [List.length_take_of_le hj]),
      List.getElem?_take_of_lt h]

theorem getD_ins_self (j v : Nat) (l : List Nat) (hj : j ≤ l.length) :
    (l.take j ++ [v] ++ l.drop j).getD j 0 = v := by
  simp [List.getD_eq_getElem?_getD, Nat.min_eq_left hj]

theorem insAxis_cases {j n i : Nat} (hj : j ≤ n) (hi : i < n + 1) :
    i = j ∨ ∃ b, b < n ∧ insAxis j b = i := by
  unfold insAxis
  rcases Nat.lt_trichotomy i j with h | h | h
  · exact .inr ⟨i, Nat.lt_of_lt_of_le h hj, if_neg (Nat.not_le_of_lt h)⟩
  · exact .inl h
  · cases i with
    | zero => exact absurd h (Nat.not_lt_zero j)
    | succ i => exact .inr ⟨i, Nat.lt_of_succ_lt_succ hi, if_pos (Nat.le_of_lt_succ h)⟩

theorem unit_axisMap (shape periodic : List Nat) (j : Nat) (hj : j ≤ shape.length) :
    AxisMap shape (insShape j shape) periodic (periodic.map (insAxis j)) (insC j) (insAxis j) (fun _ x => x) := by
  have hlen : (insShape j shape).length = shape.length + 1 := length_ins j 1 shape
  have hS (b) : (insShape j shape).getD (insAxis j b) 0 = shape.getD b 0 := getD_insAxis j 1 shape hj b
  have hSj : (insShape j shape).getD j 0 = 1 := getD_ins_self j 1 shape hj
  have hC {c} (hc : InRange shape c) (b) : (insC j c).getD (insAxis j b) 0 = c.getD b 0 :=
    getD_insAxis j 0 c (hc.1 ▸ hj) b
  have hCj {c} (hc : InRange shape c) : (insC j c).getD j 0 = 0 := getD_ins_self j 0 c (hc.1 ▸ hj)
  refine
    { range := fun c hc => ⟨by rw [hlen, ← hc.1]; exact length_ins j 0 c, fun i hi => ?range⟩
      β_lt := fun b hb => ?β_lt
      β_inj := fun b b' _ _ h => insAxis_inj j b b' h
      get := fun c b hc _ => hC hc b
      f_inj := fun _ _ _ _ _ _ h => h
      f_adj := fun b x y _ _ _ => ?f_adj
      rest := fun i' hi' => ?rest }
  case range =>
    rcases insAxis_cases hj (hlen ▸ hi) with rfl | ⟨b, hb, rfl⟩
    · rw [hCj hc, hSj]; exact Nat.zero_lt_one
    · rw [hC hc, hS]; exact hc.2 b hb
  case β_lt =>
    rw [hlen]
    unfold insAxis
    split
    · exact Nat.succ_lt_succ hb
    · exact Nat.lt_succ_of_lt hb
  case f_adj =>
    rw [hS, List.contains_map_inj (insAxis j) (insAxis_inj j) periodic b]
  case rest =>
    rcases insAxis_cases hj (hlen ▸ hi') with rfl | ⟨b, hb, rfl⟩
    · -- the inserted axis: coordinate 0 on a non-periodic axis of length 1 has no neighbour
      refine .inr fun c d hc hd => ?_
      have e : (periodic.map (insAxis i')).contains i' = false := by
        rw [Bool.eq_false_iff, Ne, List.contains_iff_mem, List.mem_map]
        rintro ⟨x, _, e⟩
        exact insAxis_ne i' x e
      rw [hCj hc, hCj hd, hSj, e]
      exact ⟨rfl, by decide⟩
    · exact .inl ⟨b, hb, rfl⟩

theorem unit_hadj (shape periodic : List Nat) (j : Nat) (hj : j ≤ shape.length)
    (p q : Nat) (hp : p < Grid.size shape) (hq : q < Grid.size shape) :
    q ∈ Grid.nbrs shape periodic p ↔
      liftC shape (insShape j shape) (insC j) q ∈
        Grid.nbrs (insShape j shape) (periodic.map (fun x => if x ≥ j then x + 1 else x))
          (liftC shape (insShape j shape) (insC j) p) :=
  (unit_axisMap shape periodic j hj).hadj p q hp hq

def padC (lo : List Nat) (c : List Nat) : List Nat := List.zipWith (· + ·) c lo

/-- the padded shape `n + l + h` per axis (core Lean has no `zipWith3`) -/
def padShape (shape lo hi : List Nat) : List Nat :=
  List.zipWith (· + ·) (List.zipWith (· + ·) shape lo) hi

section
variable {shape lo hi : List Nat} (hlo : lo.length = shape.length) (hhi : hi.length = shape.length)
include hlo hhi

theorem length_padShape : (padShape shape lo hi).length = shape.length := by
  simp [padShape, hlo, hhi]

theorem getD_padShape (i : Nat) :
    (padShape shape lo hi).getD i 0 = shape.getD i 0 + lo.getD i 0 + hi.getD i 0 := by
  unfold padShape
  rw [List.getD_zipWith_add _ hi (by simp [hlo, hhi]), List.getD_zipWith_add shape lo hlo.symm]

end

theorem pad_axisMap (shape lo hi : List Nat) (hlo : lo.length = shape.length)
    (hhi : hi.length = shape.length) :
    AxisMap shape (padShape shape lo hi) [] [] (padC lo) (fun b => b)
      (fun b x => x + lo.getD b 0) where
  range := by
    intro c hc
    have hcl : c.length = lo.length := by rw [hc.1, hlo]
    refine ⟨by rw [length_padShape hlo hhi, padC, List.length_zipWith, ← hcl, Nat.min_self, hc.1], ?_⟩
    intro i hi'
    rw [length_padShape hlo hhi] at hi'
    rw [getD_padShape hlo hhi, padC, List.getD_zipWith_add c lo hcl]
    exact Nat.lt_add_right _ (Nat.add_lt_add_right (hc.2 i hi') _)
  β_lt := fun b hb => by rw [length_padShape hlo hhi]; exact hb
  β_inj := fun b b' _ _ h => h
  get := fun c b hc _ => List.getD_zipWith_add c lo (by rw [hc.1, hlo]) b
  f_inj := fun b x y _ _ _ h => Nat.add_right_cancel h
  f_adj := by
    intro b x y _ hx hy
    rw [getD_padShape hlo hhi]
    exact axis_pad _ _ _ x y hx hy
  rest := fun i' hi' => .inl ⟨i', by rw [← length_padShape hlo hhi]; exact hi', rfl⟩

theorem pad_hadj (shape lo hi : List Nat) (hlo : lo.length = shape.length)
    (hhi : hi.length = shape.length)
    (p q : Nat) (hp : p < Grid.size shape) (hq : q < Grid.size shape) :
    q ∈ Grid.nbrs shape [] p ↔
      liftC shape (padShape shape lo hi) (padC lo) q ∈
        Grid.nbrs (padShape shape lo hi) [] (liftC shape (padShape shape lo hi) (padC lo) p) :=
  (pad_axisMap shape lo hi hlo hhi).hadj p q hp hq

/-- new axis `i` holds old axis `τ i` -/
def permC (τ : Nat → Nat) (c : List Nat) : List Nat :=
  (List.range c.length).map (fun i => c.getD (τ i) 0)

theorem getD_permC (τ : Nat → Nat) (c : List Nat) (i : Nat) (hi : i < c.length) :
    (permC τ c).getD i 0 = c.getD (τ i) 0 := by
  simp [permC, List.getD_eq_getElem?_getD, hi]

theorem length_permC (τ : Nat → Nat) (c : List Nat) : (permC τ c).length = c.length := by
  simp [permC]

/-- the new axis `i` is the old axis `τ i`, so the old axis `x` becomes the new axis `τ' x` -/
theorem perm_axisMap (shape periodic : List Nat) (τ τ' : Nat → Nat)
    (h1 : ∀ i, τ (τ' i) = i) (h2 : ∀ i, τ' (τ i) = i)
    (hτ : ∀ i, i < shape.length → τ i < shape.length)
    (hτ' : ∀ i, i < shape.length → τ' i < shape.length) :
    AxisMap shape (permC τ shape) periodic (periodic.map τ') (permC τ) τ' (fun _ x => x) where
  range := by
    intro c hc
    refine ⟨by rw [length_permC, length_permC, hc.1], ?_⟩
    intro i hi
    rw [length_permC] at hi
    rw [getD_permC τ c i (hc.1 ▸ hi), getD_permC τ shape i hi]
    exact hc.2 (τ i) (hτ i hi)
  β_lt := by
    intro b hb
    rw [length_permC]
    exact hτ' b hb
  β_inj := by
    intro b b' _ _ h
    rw [← h1 b, ← h1 b', h]
  get := by
    intro c b hc hb
    rw [getD_permC τ c (τ' b) (hc.1 ▸ hτ' b hb), h1]
  f_inj := fun _ _ _ _ _ _ h => h
  f_adj := by
    intro b x y hb _ _
    have e1 : (permC τ shape).getD (τ' b) 0 = shape.getD b 0 := by
      rw [getD_permC τ shape (τ' b) (hτ' b hb), h1]
    have e2 : (periodic.map τ').contains (τ' b) = periodic.contains b :=
      List.contains_map_inj τ' (fun x y h => by rw [← h1 x, ← h1 y, h]) periodic b
    rw [e1, e2]
  rest := by
    intro i' hi'
    rw [length_permC] at hi'
    exact Or.inl ⟨τ i', hτ i' hi', h2 i'⟩

def swapIdx (a x : Nat) : Nat := if x = a then a + 1 else if x = a + 1 then a else x

def swapC (a : Nat) (c : List Nat) : List Nat := permC (swapIdx a) c

example : swapC 1 [5, 6, 7, 8] = [5, 7, 6, 8] := by decide
example : swapC 0 [3, 4] = [4, 3] := by decide

theorem swapIdx_swapIdx (a i : Nat) : swapIdx a (swapIdx a i) = i := by
  unfold swapIdx
  by_cases h1 : i = a
  · simp [h1]
  · by_cases h2 : i = a + 1
    · simp [h2]
    · simp [h1, h2]

theorem swapIdx_lt (a n : Nat) (ha : a + 1 < n) (i : Nat) (hi : i < n) : swapIdx a i < n := by
  unfold swapIdx
  split
  · exact ha
  · split <;> omega

theorem swap_axisMap (shape periodic : List Nat) (a : Nat) (ha : a + 1 < shape.length) :
    AxisMap shape (swapC a shape) periodic (periodic.map (swapIdx a)) (swapC a) (swapIdx a)
      (fun _ x => x) :=
  perm_axisMap shape periodic (swapIdx a) (swapIdx a) (swapIdx_swapIdx a) (swapIdx_swapIdx a)
    (swapIdx_lt a _ ha) (swapIdx_lt a _ ha)

theorem swap_hadj (shape periodic : List Nat) (a : Nat) (ha : a + 1 < shape.length)
    (p q : Nat) (hp : p < Grid.size shape) (hq : q < Grid.size shape) :
    q ∈ Grid.nbrs shape periodic p ↔
      liftC shape (swapC a shape) (swapC a) q ∈
        Grid.nbrs (swapC a shape)
          (periodic.map (fun x => if x = a then a + 1 else if x = a + 1 then a else x))
          (liftC shape (swapC a shape) (swapC a) p) :=
  (swap_axisMap shape periodic a ha).hadj p q hp hq

theorem swap_invariance (shape periodic : List Nat) (a : Nat) (ha : a + 1 < shape.length)
    (val : Nat → Int) (order : List Nat) (cs : List Crit)
    (horder : ∀ p ∈ order, p < Grid.size shape)
    (hseeds : ∀ c ∈ cs, ∀ s ∈ P10.seedsOf c, s < Grid.size shape)
    (val' : Nat → Int)
    (hval : ∀ p ∈ order, val' (liftC shape (swapC a shape) (swapC a) p) = val p) :
    P10.SimL (liftC shape (swapC a shape) (swapC a))
      (run (envOf val (Grid.nbrs shape periodic) cs) order)
      (run (envOf val' (Grid.nbrs (swapC a shape)
            (periodic.map (fun x => if x = a then a + 1 else if x = a + 1 then a else x)))
          (cs.map (P10.critRename (liftC shape (swapC a shape) (swapC a)))))
        (order.map (liftC shape (swapC a shape) (swapC a)))) :=
  (swap_axisMap shape periodic a ha).invariance val order cs horder hseeds val' hval

/-- the 2-D transpose is the instance `a = 0` -/
example (n0 n1 : Nat) : swapC 0 [n0, n1] = [n1, n0] := rfl

end P19
