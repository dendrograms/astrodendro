import ADProofs.CacheProofs

/-!
# GrowProofs (P37): the cached `Structure.ancestor` during `Dendrogram.compute`

`P17.history_sound` (CacheProofs) covers cached queries interleaved with *prunes*.  This file covers the
compute-time use (dendrogram.py:245-321): `structures[a].ancestor` is called for every labelled neighbour
on every step, while new leaves are created, new branches are created *above current roots* with
`Structure(coord, value, children=adjacent, idx=...)` (structure.py:59-86: `child.parent = self` for the
children, `_reset_cache()` of the new object only), and absorbed parentless leaves are removed with
`structures.pop(m.idx)`: the heap mutations `Heap.newLeaf`, `Heap.attach`, `Heap.dropLeaf`, and histories `GOp` of
them and of queries, legal (`LegalGrow`) when every operation meets the precondition the loop guarantees.

The invariant is `AncSound` (defined in CacheProofs, where `P17.ancestor_spec` proves the cached query right under it
alone): every cached `_ancestor` of an alive object is a proper ancestor on the live parent chain.  The full `P17.Sound`
cannot be used here: it demands `_level = 0` on parentless objects (seeded by `_make_trunk` only after the loop), which
is false for freshly constructed structures (`newLeaf_not_sound`).  `AncSound` survives because an object that has been
given a parent never gets another one, so every proper-ancestor fact persists (`P17.Reach.persist`).
-/

namespace Heap

/-- `Structure(coord, value, idx=i)` ; `structures[i] = leaf` : a fresh parentless object, all caches empty
    (precondition: `i` is not yet an object) -/
def newLeaf (h : Heap) (i : Nat) : Heap :=
  { objs := { id := i } :: h.objs, alive := i :: h.alive }

/-- `Structure(coord, value, children=ks, idx=b)` ; `structures[b] = branch` : for every child the assignment
    `child.parent = self` and nothing else (the caches of the children and of everything below them stay as
    they are); the new object has `kids := ks` and empty caches
    (preconditions: `b` fresh, every `k ∈ ks` alive and parentless, `ks` duplicate-free) -/
def attach (h : Heap) (b : Nat) (ks : List Nat) : Heap :=
  let h1 := ks.foldl (fun acc c => acc.update c (fun co => { co with parent := some b })) h
  { objs := { id := b, kids := ks } :: h1.objs, alive := b :: h1.alive }

/-- `structures.pop(m.idx)` for an absorbed parentless childless object: the key is removed, the object
    itself stays reachable -/
def dropLeaf (h : Heap) (m : Nat) : Heap := { h with alive := h.alive.erase m }

/-- a new alive object with the record `o` above its children: `child.parent = self` for every member of `o.kids` and
    nothing else.  `newLeaf`, `attach` and their versions with own pixels (`newLeafP`, `attachP` of ComputeHeapRefine)
    are this operation at four records `o`, by `rfl`. -/
def attachO (h : Heap) (o : Obj) : Heap :=
  let h1 := o.kids.foldl (fun acc c => acc.update c (fun co => { co with parent := some o.id })) h
  { objs := o :: h1.objs, alive := o.id :: h1.alive }

end Heap

namespace P37
open Heap P17

/-- operations of the pixel loop of `compute` -/
inductive GOp where
  | newLeaf (i : Nat)
  | attach (b : Nat) (ks : List Nat)
  | dropLeaf (m : Nat)
  | qAnc (i : Nat)
deriving Repr, Inhabited, DecidableEq

def LegalG (h : Heap) : GOp → Prop
  | .newLeaf i => h.get i = none
  | .attach b ks => h.get b = none ∧ ks.Nodup ∧
      ∀ k ∈ ks, k ∈ h.alive ∧ (h.get k).bind (·.parent) = none
  | .dropLeaf m => m ∈ h.alive ∧ (h.get m).bind (·.parent) = none ∧
      ((h.get m).map (·.kids)).getD [] = []
  | .qAnc i => i ∈ h.alive

instance decLegalG (h : Heap) : (op : GOp) → Decidable (LegalG h op)
  | .newLeaf i => inferInstanceAs (Decidable (h.get i = none))
  | .attach b ks => inferInstanceAs (Decidable (h.get b = none ∧ ks.Nodup ∧
      ∀ k ∈ ks, k ∈ h.alive ∧ (h.get k).bind (·.parent) = none))
  | .dropLeaf m => inferInstanceAs (Decidable (m ∈ h.alive ∧ (h.get m).bind (·.parent) = none ∧
      ((h.get m).map (·.kids)).getD [] = []))
  | .qAnc i => inferInstanceAs (Decidable (i ∈ h.alive))

/-- one grow operation (queries update the cache of the queried object) -/
def stepG (h : Heap) : GOp → Heap
  | .newLeaf i => h.newLeaf i
  | .attach b ks => h.attach b ks
  | .dropLeaf m => h.dropLeaf m
  | .qAnc i => (h.ancestor h.size i).1

/-- for every `qAnc i` of the history: (answer of the cached `ancestor`, `specRoot` from the live links) -/
def runGrow : Heap → List GOp → List (Option Nat × Option Nat)
  | _, [] => []
  | h, .qAnc i :: ops =>
    ((h.ancestor h.size i).2, h.specRoot h.size i) :: runGrow (stepG h (.qAnc i)) ops
  | h, op :: ops => runGrow (stepG h op) ops

/-- `runGrow` with the heap in which each query is asked -/
def traceGrow : Heap → List GOp → List (Heap × Option Nat × Option Nat)
  | _, [] => []
  | h, .qAnc i :: ops =>
    (h, (h.ancestor h.size i).2, h.specRoot h.size i) :: traceGrow (stepG h (.qAnc i)) ops
  | h, op :: ops => traceGrow (stepG h op) ops

def LegalGrow : Heap → List GOp → Prop
  | _, [] => True
  | h, op :: ops => LegalG h op ∧ LegalGrow (stepG h op) ops

instance decLegalGrow : (h : Heap) → (ops : List GOp) → Decidable (LegalGrow h ops)
  | _, [] => isTrue trivial
  | h, op :: ops =>
    have := decLegalGrow (stepG h op) ops
    inferInstanceAs (Decidable (LegalG h op ∧ LegalGrow (stepG h op) ops))

theorem get_attachO (h : Heap) (o : Obj) (x : Nat) :
    (h.attachO o).get x =
      if x = o.id then some o
      else if x ∈ o.kids then (h.get x).map (fun co => { co with parent := some o.id }) else h.get x := by
  unfold Heap.attachO
  rw [get_cons _ _ _ (o.kids.foldl (fun acc c => acc.update c (fun co => { co with parent := some o.id })) h).alive x]
  split
  · rfl
  · exact get_foldl_setParent o.id o.kids h x

theorem attachO_alive (h : Heap) (o : Obj) : (h.attachO o).alive = o.id :: h.alive := by
  unfold Heap.attachO
  simp only [foldl_setParent_alive]

theorem attachO_size (h : Heap) (o : Obj) : (h.attachO o).size = h.size + 1 := by
  rw [← foldl_setParent_size o.id o.kids h]; rfl

theorem get_attach (h : Heap) (b : Nat) (ks : List Nat) (x : Nat) :
    (h.attach b ks).get x =
      if x = b then some { id := b, kids := ks }
      else if x ∈ ks then (h.get x).map (fun co => { co with parent := some b }) else h.get x :=
  get_attachO h { id := b, kids := ks } x

theorem attach_alive (h : Heap) (b : Nat) (ks : List Nat) : (h.attach b ks).alive = b :: h.alive :=
  attachO_alive h { id := b, kids := ks }

theorem attach_size (h : Heap) (b : Nat) (ks : List Nat) : (h.attach b ks).size = h.size + 1 :=
  attachO_size h { id := b, kids := ks }

theorem newLeaf_size (h : Heap) (i : Nat) : (h.newLeaf i).size = h.size + 1 := attachO_size h { id := i }

theorem ancSound_setAnc {h : Heap} (hs : AncSound h) {i r : Nat} (tr : Reach h i r) :
    AncSound (h.update i (fun o => { o with anc := some r })) := by
  have s := sameLinks_update h i (fun o => { o with anc := some r }) (fun _ => rfl) (fun _ => rfl) (fun _ => rfl)
  intro j hj o' hg' a ha
  rw [get_update h i (fun o => { o with anc := some r }) (fun _ => rfl)] at hg'
  refine Reach.same s ?_
  split at hg'
  · subst j
    obtain ⟨o, -, rfl⟩ := Option.map_eq_some_iff.1 hg'
    cases ha
    exact tr
  · exact hs j hj o' hg' a ha

def IsRootOf (h : Heap) (ans : Option Nat) : Prop :=
  ∃ r ro, ans = some r ∧ r ∈ h.alive ∧ h.get r = some ro ∧ ro.parent = none

theorem ancestor_grow (h : Heap) (i : Nat) (hwf : WF h) (hs : AncSound h) (hi : i ∈ h.alive) :
    (h.ancestor h.size i).2 = h.specRoot h.size i ∧ IsRootOf h (h.ancestor h.size i).2 ∧
    WF (h.ancestor h.size i).1 ∧ AncSound (h.ancestor h.size i).1 ∧
    SameLinks h (h.ancestor h.size i).1 := by
  obtain ⟨h1, hh⟩ := ancestor_spec hwf hs hi
  refine ⟨h1, ?_, ?_⟩
  · obtain ⟨r, hr'⟩ := specRoot_alive hwf hi
    obtain ⟨e | t, ro, hgr, hpr⟩ := specRoot_reach hr' <;> refine ⟨r, ro, by rw [h1, hr'], ?_, hgr, hpr⟩
    · exact e ▸ hi
    · exact t.alive hwf hi
  · obtain e | ⟨r, tr, e⟩ := hh <;> rw [e]
    · exact ⟨hwf, hs, .refl h⟩
    · have s := sameLinks_update h i (fun o => { o with anc := some r }) (fun _ => rfl) (fun _ => rfl) (fun _ => rfl)
      exact ⟨hwf.same s, ancSound_setAnc hs tr, s⟩

/-- what `attachO nb` does to the record of an old object `x` -/
def attachF (nb : Obj) (x : Nat) (o : Obj) : Obj :=
  if x ∈ nb.kids then { o with parent := some nb.id } else o

theorem attachF_fields (nb : Obj) (x : Nat) (o : Obj) :
    (attachF nb x o).parent = (if x ∈ nb.kids then some nb.id else o.parent) ∧
    (attachF nb x o).kids = o.kids ∧ (attachF nb x o).anc = o.anc := by
  unfold attachF; split <;> exact ⟨rfl, rfl, rfl⟩

/-- Well-formedness: the new object gets rank 0 and every old one a rank one higher; old parent links stay, the children
    of `nb`, parentless before, now point to it.  `AncSound`: a cached ancestor is a root that keeps being one, since only
    parentless objects without a cached ancestor of their own (`hks`) get a parent. -/
theorem attachO_inv {h : Heap} {nb : Obj} (w : WF h) (hs : AncSound h)
    (hf : h.get nb.id = none) (hnd : nb.kids.Nodup)
    (hks : ∀ k ∈ nb.kids, k ∈ h.alive ∧ (h.get k).bind (·.parent) = none)
    (hpn : nb.parent = none) (han : nb.anc = none) :
    WF (h.attachO nb) ∧ AncSound (h.attachO nb) := by
  have hba : ∀ x ∈ h.alive, x ≠ nb.id := fun x hx e => by
    obtain ⟨o, hg⟩ := w.alive_get x hx; rw [e, hf] at hg; cases hg
  have hal : ∀ x, x ∈ (h.attachO nb).alive ↔ x = nb.id ∨ x ∈ h.alive := fun x => by
    rw [attachO_alive, List.mem_cons]
  have new : (h.attachO nb).get nb.id = some nb := by rw [get_attachO, if_pos rfl]
  have old : ∀ x o, h.get x = some o → (h.attachO nb).get x = some (attachF nb x o) := by
    intro x o hg
    have hxb : x ≠ nb.id := fun e => by rw [e, hf] at hg; cases hg
    rw [get_attachO, if_neg hxb, hg]; unfold attachF; split <;> rfl
  have orphan : ∀ k ∈ nb.kids, ∀ o, h.get k = some o → o.parent = none := fun k hk o hg => by
    simpa [hg] using (hks k hk).2
  have view : ∀ x ∈ (h.attachO nb).alive, ∀ o', (h.attachO nb).get x = some o' →
      (nb.id = x ∧ nb = o') ∨
      (x ∈ h.alive ∧ x ≠ nb.id ∧ ∃ o, h.get x = some o ∧ o' = attachF nb x o) := by
    intro x hx o' hg'
    rcases (hal x).1 hx with rfl | hx
    · exact .inl ⟨rfl, Option.some.inj (new.symm.trans hg')⟩
    · obtain ⟨o, hg⟩ := w.alive_get x hx
      exact .inr ⟨hx, hba x hx, o, hg, Option.some.inj (hg'.symm.trans (old x o hg))⟩
  obtain ⟨rk, hr⟩ := w.rank
  refine ⟨⟨?_, ?_, ?_, ?_, ?_, ⟨fun x => if x = nb.id then 0 else rk x + 1, ?_⟩⟩, ?_⟩
  · rw [attachO_alive]; exact List.nodup_cons.2 ⟨fun hb => hba nb.id hb rfl, w.alive_nodup⟩
  · intro x hx
    rcases (hal x).1 hx with rfl | hx
    · exact ⟨_, new⟩
    · obtain ⟨o, hg⟩ := w.alive_get x hx
      exact ⟨_, old x o hg⟩
  · intro x hx o' hg' p hp
    obtain ⟨rfl, rfl⟩ | ⟨hx, _, o, hg, rfl⟩ := view x hx o' hg'
    · rw [hpn] at hp; cases hp
    · rw [(attachF_fields nb x o).1] at hp
      by_cases hxk : x ∈ nb.kids
      · rw [if_pos hxk] at hp; cases hp
        exact ⟨(hal nb.id).2 (.inl rfl), _, new, hxk⟩
      · rw [if_neg hxk] at hp
        obtain ⟨hpa, po, hgp, hk⟩ := w.parent_ok x hx o hg p hp
        exact ⟨(hal p).2 (.inr hpa), _, old p po hgp, (attachF_fields nb p po).2.1 ▸ hk⟩
  · -- an old child has a parent, so it is not in `nb.kids`
    intro x hx o' hg' c hc
    obtain ⟨rfl, rfl⟩ | ⟨hx, _, o, hg, rfl⟩ := view x hx o' hg'
    · obtain ⟨co, hgc⟩ := w.alive_get c (hks c hc).1
      exact ⟨(hal c).2 (.inr (hks c hc).1), _, old c co hgc, by rw [(attachF_fields nb c co).1, if_pos hc]⟩
    · rw [(attachF_fields nb x o).2.1] at hc
      obtain ⟨hca, co, hgc, hcp⟩ := w.kids_ok x hx o hg c hc
      refine ⟨(hal c).2 (.inr hca), _, old c co hgc, ?_⟩
      rw [(attachF_fields nb c co).1, if_neg fun hck => ?_, hcp]
      rw [orphan c hck co hgc] at hcp; cases hcp
  · intro x hx o' hg'
    obtain ⟨rfl, rfl⟩ | ⟨hx, _, o, hg, rfl⟩ := view x hx o' hg'
    · exact hnd
    · rw [(attachF_fields nb x o).2.1]; exact w.kids_nodup x hx o hg
  · intro x hx o' hg'
    rw [attachO_size]
    obtain ⟨rfl, rfl⟩ | ⟨hx, hxb, o, hg, rfl⟩ := view x hx o' hg'
    · exact ⟨by simp, fun p hp => by rw [hpn] at hp; cases hp⟩
    · have hrx := hr x hx o hg
      simp only [if_neg hxb]
      refine ⟨by omega, fun p hp => ?_⟩
      rw [(attachF_fields nb x o).1] at hp
      by_cases hxk : x ∈ nb.kids
      · rw [if_pos hxk] at hp; cases hp; simp
      · rw [if_neg hxk] at hp
        have := hrx.2 p hp
        simp only [if_neg (hba p (w.parent_ok x hx o hg p hp).1)]
        omega
  · -- AncSound: the parent of an object that had one is unchanged
    intro x hx o' hg' a ha
    obtain ⟨rfl, rfl⟩ | ⟨hx, _, o, hg, rfl⟩ := view x hx o' hg'
    · rw [han] at ha; cases ha
    · rw [(attachF_fields nb x o).2.2] at ha
      refine (hs x hx o hg a ha).persist fun y yo p hgy hyp => ⟨_, old y yo hgy, ?_⟩
      rw [(attachF_fields nb y yo).1, if_neg fun hyk => ?_, hyp]
      rw [orphan y hyk yo hgy] at hyp; cases hyp

theorem dropLeaf_inv {h : Heap} {m : Nat} (w : WF h) (hs : AncSound h)
    (hp : (h.get m).bind (·.parent) = none) (hk : ((h.get m).map (·.kids)).getD [] = []) :
    WF (h.dropLeaf m) ∧ AncSound (h.dropLeaf m) := by
  obtain ⟨nd, hsome, hpo, hko, hkn, rk, hr⟩ := Links.wf_iff.1 w.links
  -- the two hypotheses in the spelling of `Links.wf_iff` (the same terms)
  have hp : h.links.parentOf m = none := hp
  have hk : h.links.kidsOf m = [] := hk
  have hal : ∀ x ∈ (h.dropLeaf m).alive, x ∈ h.alive := fun x hx => List.mem_of_mem_erase hx
  have keep : ∀ x ∈ h.alive, x ≠ m → x ∈ (h.dropLeaf m).alive := fun x hx hxm => (List.mem_erase_of_ne hxm).2 hx
  -- the links are those of `h`, and there nothing points to `m`
  refine ⟨.of_links (Links.wf_iff.2 ⟨nd.erase m, fun x hx => hsome x (hal x hx), fun x hx q hq => ?_,
    fun x hx c hc => ?_, fun x hx => hkn x (hal x hx), rk, fun x hx => hr x (hal x hx)⟩), fun x hx o hg a ha => ?_⟩
  · obtain ⟨hqa, hxq⟩ := hpo x (hal x hx) q hq
    refine ⟨keep q hqa fun e => ?_, hxq⟩
    rw [e, hk] at hxq; cases hxq
  · obtain ⟨hca, hcp⟩ := hko x (hal x hx) c hc
    refine ⟨keep c hca fun e => ?_, hcp⟩
    rw [e, hp] at hcp; cases hcp
  · exact Reach.persist (h := h) (h' := h.dropLeaf m) (fun y yo p hgy hyp => ⟨yo, hgy, hyp⟩) (hs x (hal x hx) o hg a ha)

theorem stepG_inv (h : Heap) (op : GOp) (w : WF h) (hs : AncSound h) (hl : LegalG h op) :
    WF (stepG h op) ∧ AncSound (stepG h op) := by
  cases op with
  | newLeaf i => exact attachO_inv (nb := { id := i }) w hs hl List.nodup_nil nofun rfl rfl
  | attach b ks => exact attachO_inv (nb := { id := b, kids := ks }) w hs hl.1 hl.2.1 hl.2.2 rfl rfl
  | dropLeaf m => exact dropLeaf_inv w hs hl.2.1 hl.2.2
  | qAnc i =>
    obtain ⟨_, _, h3, h4, _⟩ := ancestor_grow h i w hs hl
    exact ⟨h3, h4⟩

theorem empty_wf : WF ({} : Heap) := ⟨List.nodup_nil, nofun, nofun, nofun, nofun, ⟨fun _ => 0, nofun⟩⟩

theorem empty_ancSound : AncSound ({} : Heap) := nofun

/-- every cached `ancestor` answer of a legal history equals `specRoot` from the live links at that moment, and is a
    parentless alive object of the heap in which the query is asked -/
theorem grow_trace_sound (h : Heap) (ops : List GOp) (w : WF h) (hs : AncSound h)
    (hl : LegalGrow h ops) :
    ∀ t ∈ traceGrow h ops, t.2.1 = t.2.2 ∧ IsRootOf t.1 t.2.1 := by
  induction ops generalizing h with
  | nil => intro t ht; simp [traceGrow] at ht
  | cons op ops ih =>
    obtain ⟨w', hs'⟩ := stepG_inv h op w hs hl.1
    have hrec := ih (stepG h op) w' hs' hl.2
    cases op with
    | qAnc i =>
      intro t ht
      simp only [traceGrow, List.mem_cons] at ht
      rcases ht with rfl | ht
      · obtain ⟨h1, h2, _⟩ := ancestor_grow h i w hs hl.1
        exact ⟨h1, h2⟩
      · exact hrec t ht
    | newLeaf i => simpa only [traceGrow] using hrec
    | attach b ks => simpa only [traceGrow] using hrec
    | dropLeaf m => simpa only [traceGrow] using hrec

theorem runGrow_eq_trace (h : Heap) (ops : List GOp) : runGrow h ops = (traceGrow h ops).map (·.2) := by
  induction ops generalizing h with
  | nil => rfl
  | cons op ops ih => cases op <;> simp [runGrow, traceGrow, ih]

theorem grow_run_sound (h : Heap) (ops : List GOp) (w : WF h) (hs : AncSound h) (hl : LegalGrow h ops) :
    ∀ pr ∈ runGrow h ops, pr.1 = pr.2 ∧ ∃ r, pr.1 = some r := by
  intro pr hpr
  rw [runGrow_eq_trace, List.mem_map] at hpr
  obtain ⟨t, ht, rfl⟩ := hpr
  obtain ⟨h1, r, _, h2, _⟩ := grow_trace_sound h ops w hs hl t ht
  exact ⟨h1, r, h2⟩

theorem grow_induction {P : Heap → Prop}
    (step : ∀ g op, WF g → AncSound g → LegalG g op → P g → P (stepG g op))
    (h : Heap) (ops : List GOp) (w : WF h) (hs : AncSound h) (hl : LegalGrow h ops) (h0 : P h) :
    WF (ops.foldl stepG h) ∧ AncSound (ops.foldl stepG h) ∧ P (ops.foldl stepG h) := by
  induction ops generalizing h with
  | nil => exact ⟨w, hs, h0⟩
  | cons op ops ih =>
    obtain ⟨w', hs'⟩ := stepG_inv h op w hs hl.1
    exact ih _ w' hs' hl.2 (step h op w hs hl.1 h0)

/-- `0` is queried while its cached `_ancestor` (`2`, then `5`) has meanwhile been given a parent -/
def exHist : List GOp :=
  [.newLeaf 0, .newLeaf 1, .qAnc 0, .attach 2 [0, 1], .qAnc 0, .newLeaf 3, .newLeaf 4, .dropLeaf 4,
   .attach 5 [2, 3], .qAnc 0, .qAnc 1, .qAnc 3, .newLeaf 6, .attach 7 [6, 5], .qAnc 0, .qAnc 6]

example : LegalGrow {} exHist := by decide +kernel

example : runGrow {} exHist =
    [(some 0, some 0), (some 2, some 2), (some 5, some 5), (some 5, some 5), (some 5, some 5),
     (some 7, some 7), (some 7, some 7)] := by decide +kernel

example : ((exHist.foldl stepG {}).get 0).bind (·.anc) = some 7 := by decide +kernel

/-- on a fresh leaf `_level` is `None`, not `0`: hence `AncSound` -/
theorem newLeaf_not_sound : ¬ Sound (({} : Heap).newLeaf 0) := by
  intro hs
  have := (hs 0 (by decide +kernel) { id := 0 } (by decide +kernel)).root rfl
  simp at this

/-- sharpness (a): `attach 3 [0]` re-parents `0`, which already has the parent `2` - the only violated
    clause of legality is "parentless" -/
def badHist : List GOp :=
  [.newLeaf 0, .newLeaf 1, .attach 2 [0, 1], .qAnc 0, .attach 3 [0], .qAnc 0]

theorem illegal_attach_stale_witness :
    ¬ LegalGrow {} badHist ∧ runGrow {} badHist = [(some 2, some 2), (some 2, some 3)] := by decide +kernel

/-- without the earlier query (nothing cached) the same operations give the live root -/
theorem illegal_attach_nocache :
    runGrow {} [.newLeaf 0, .newLeaf 1, .attach 2 [0, 1], .attach 3 [0], .qAnc 0] = [(some 3, some 3)] := by
  decide +kernel

/-- sharpness (b): the assignment `child.parent = parent` of `_merge_with_parent` on an object that already
    has a parent, with the children lists kept consistent -/
def reparent (h : Heap) (c p : Nat) : Heap :=
  match (h.get c).bind (·.parent) with
  | none => h
  | some q =>
    ((h.update q (fun qo => { qo with kids := qo.kids.erase c })).update p
      (fun po => { po with kids := po.kids ++ [c] })).update c (fun co => { co with parent := some p })

inductive XOp where
  | grow (op : GOp)
  | reparent (c p : Nat)
deriving Repr, Inhabited

def stepX (h : Heap) : XOp → Heap
  | .grow op => stepG h op
  | .reparent c p => reparent h c p

def runGrowX : Heap → List XOp → List (Option Nat × Option Nat)
  | _, [] => []
  | h, .grow (.qAnc i) :: ops =>
    ((h.ancestor h.size i).2, h.specRoot h.size i) :: runGrowX (stepX h (.grow (.qAnc i))) ops
  | h, op :: ops => runGrowX (stepX h op) ops

def reparentHist (q : Bool) : List XOp :=
  [.grow (.newLeaf 0), .grow (.newLeaf 1), .grow (.attach 2 [0, 1]),
   .grow (.newLeaf 3), .grow (.newLeaf 4), .grow (.attach 5 [3, 4])] ++
  (if q then [.grow (.qAnc 0)] else []) ++ [.reparent 0 5, .grow (.qAnc 0), .grow (.qAnc 1), .grow (.qAnc 3)]

theorem reparent_stale_witness : ∃ pr ∈ runGrowX {} (reparentHist true), pr.1 ≠ pr.2 := by decide +kernel

theorem reparent_stale_values :
    runGrowX {} (reparentHist true) = [(some 2, some 2), (some 2, some 5), (some 2, some 2), (some 5, some 5)] ∧
    runGrowX {} (reparentHist false) = [(some 5, some 5), (some 2, some 2), (some 5, some 5)] := by decide +kernel

/-- the caches other than `_ancestor` are never filled during `compute` -/
def OtherEmpty (h : Heap) : Prop :=
  ∀ x o, h.get x = some o → o.lvl = none ∧ o.desc = none ∧ o.nw = none

theorem attachO_otherEmpty {h : Heap} (he : OtherEmpty h) (nb : Obj)
    (hn : nb.lvl = none ∧ nb.desc = none ∧ nb.nw = none) : OtherEmpty (h.attachO nb) := by
  intro x o hg
  rw [get_attachO] at hg
  split at hg
  · cases hg; exact hn
  · split at hg
    · obtain ⟨o0, hgx, rfl⟩ := Option.map_eq_some_iff.1 hg
      exact he x o0 hgx
    · exact he x o hg

theorem stepG_otherEmpty (h : Heap) (op : GOp) (w : WF h) (hs : AncSound h) (hl : LegalG h op)
    (he : OtherEmpty h) : OtherEmpty (stepG h op) := by
  cases op with
  | newLeaf i => exact attachO_otherEmpty he { id := i } ⟨rfl, rfl, rfl⟩
  | attach b ks => exact attachO_otherEmpty he { id := b, kids := ks } ⟨rfl, rfl, rfl⟩
  | dropLeaf m => exact he
  | qAnc i =>
    show OtherEmpty (h.ancestor h.size i).1
    obtain ⟨-, e | ⟨r, -, e⟩⟩ := ancestor_spec w hs hl <;> rw [e]
    · exact he
    · intro x o hg
      rw [get_update h i (fun o => { o with anc := some r }) (fun _ => rfl)] at hg
      split at hg
      · obtain ⟨o0, hgx, rfl⟩ := Option.map_eq_some_iff.1 hg
        exact he _ o0 hgx
      · exact he x o hg

/-- what `finishPruneOld` (the trunk seeding `_level = 0`, no reset) does to an object -/
def seedF (h : Heap) (o : Obj) : Obj :=
  if h.alive.contains o.id && o.parent.isNone then { o with lvl := some 0 } else o

theorem seedF_eq (h : Heap) (o : Obj) :
    seedF h o = { o with lvl := if h.alive.contains o.id && o.parent.isNone then some 0 else o.lvl } := by
  unfold seedF; split <;> rfl

theorem finishPruneOld_get (h : Heap) (x : Nat) : h.finishPruneOld.get x = (h.get x).map (seedF h) := by
  unfold Heap.finishPruneOld Heap.get
  exact List.find?_key_map Obj.id (seedF h) (fun o => by rw [seedF_eq]) h.objs x

theorem finishPruneOld_same (h : Heap) : SameLinks h h.finishPruneOld := by
  refine ⟨rfl, by simp [Heap.finishPruneOld, Heap.size], fun x => ?_⟩
  rw [finishPruneOld_get]
  cases h.get x <;> simp [seedF_eq]

/-- a heap reached by `compute` (`AncSound`, other caches empty) satisfies the full `Sound` of
    CacheProofs once `_make_trunk` has seeded `_level = 0` on the parentless structures -/
theorem seed_sound {h : Heap} (w : WF h) (hs : AncSound h) (he : OtherEmpty h) :
    WF h.finishPruneOld ∧ Sound h.finishPruneOld := by
  have s := finishPruneOld_same h
  refine ⟨w.same s, fun x hx o' hg' => ?_⟩
  obtain ⟨o, hg, rfl⟩ := Option.map_eq_some_iff.1 ((finishPruneOld_get h x).symm.trans hg')
  obtain ⟨e1, e2, e3⟩ := he x o hg
  have hid := get_id hg
  have hseed : seedF h o = { o with lvl := if o.parent = none then some 0 else none } := by
    have hc : h.alive.contains o.id = true := List.contains_iff_mem.2 (hid ▸ hx)
    rw [seedF_eq, hc, e1]
    cases o.parent <;> rfl
  rw [hseed] at hg' ⊢
  exact ⟨lvl_seeded hg' rfl, fun a ha => hid ▸ (hs x hx o hg a ha).same s, fun d hd => absurd (e2.symm.trans hd) nofun,
    fun t ht => absurd (e3.symm.trans ht) nofun, fun hp => if_pos hp⟩

end P37
