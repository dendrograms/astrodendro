import ADModel.Plot
import ADProofs.Basic
import ADProofs.ListLemmas
/-!
# ADProofs.PlotProofs — the plotted tree is planar (C18; end results in `ADProps/C18.lean`)

Two facts about the tree with every child list sorted (`Plot.sortTree`; the plotter visits its prefix listing) carry
them: its structures are the sorted structures of the tree, up to order (`pre_sortTree_perm`), so sorting keeps the
leaves; and the sorted `t` is a block of the prefix listing of the sorted `u` around it (`pre_infix`), so the leaves of a
structure stand side by side in the leaf order (`sortedLeaves_infix`).  The rest is small: a branch is drawn between
the extremes of its children (`meanQ_between`), how many line segments there are, and two subtrees are nested or disjoint.
-/
open Tree

namespace P15

def leafIds (t : Tree) : List Nat := ((Tree.pre t).filter Tree.isLeaf).map Tree.id
def leafIdsL (f : List Tree) : List Nat := ((Tree.preL f).filter Tree.isLeaf).map Tree.id

theorem sortAsc_isSort (key : Nat → Int) :
    IsInsertSort (fun a b : Tree => key a.id ≤ key b.id) (Plot.sortAsc.insertByKey' key) (Plot.sortAsc key) :=
  ⟨fun _ => rfl, fun _ _ _ => rfl, rfl, fun _ _ => rfl⟩

theorem sortedPy_perm (key : Nat → Int) (rev : Bool) (l : List Tree) :
    (Plot.sortedPy key rev l).Perm l := by
  unfold Plot.sortedPy
  split
  · exact (List.reverse_perm _).trans (((sortAsc_isSort key).perm _).trans (List.reverse_perm _))
  · exact (sortAsc_isSort key).perm l

theorem sortAsc_sorted (key : Nat → Int) (l : List Tree) :
    (Plot.sortAsc key l).Pairwise (fun a b => key a.id ≤ key b.id) :=
  (sortAsc_isSort key).sorted (fun _ _ => Int.le_total _ _) (fun _ _ _ => Int.le_trans) l

theorem sortTree_id (key : Nat → Int) (rev : Bool) (t : Tree) :
    (Plot.sortTree key rev t).id = t.id := by
  cases t; simp [Plot.sortTree, Tree.id]

theorem sortTreeL_eq_map (key : Nat → Int) (rev : Bool) (l : List Tree) :
    Plot.sortTreeL key rev l = l.map (Plot.sortTree key rev) := by
  induction l with
  | nil => simp [Plot.sortTreeL]
  | cons t ts ih => simp [Plot.sortTreeL, ih]

theorem sortTree_isLeaf (key : Nat → Int) (rev : Bool) (t : Tree) :
    (Plot.sortTree key rev t).isLeaf = t.isLeaf := by
  cases t with | node i o ks =>
  rw [Plot.sortTree, isLeaf, isLeaf, kids_node, kids_node, (sortedPy_perm key rev _).isEmpty_eq,
    sortTreeL_eq_map, List.isEmpty_map]

theorem pre_sortTree_perm (key : Nat → Int) (rev : Bool) (t : Tree) :
    (pre (Plot.sortTree key rev t)).Perm ((pre t).map (Plot.sortTree key rev)) := by
  induction t using Tree.ind with
  | h i o ks ih =>
    rw [pre, List.map_cons, Plot.sortTree, pre, sortTreeL_eq_map, preL_eq_flatMap ks, List.map_flatMap]
    refine List.Perm.cons _ ((preL_perm (sortedPy_perm key rev _)).trans ?_)
    rw [preL_eq_flatMap, List.flatMap_map]
    exact List.Perm.flatMap_left' _ ih

theorem sortTree_mem_pre (key : Nat → Int) (rev : Bool) {t u : Tree} (h : t ∈ pre u) :
    Plot.sortTree key rev t ∈ pre (Plot.sortTree key rev u) :=
  (pre_sortTree_perm key rev u).mem_iff.mpr (List.mem_map_of_mem h)

theorem sortTree_leafIds_perm (key : Nat → Int) (rev : Bool) (t : Tree) :
    (leafIds (Plot.sortTree key rev t)).Perm (leafIds t) := by
  refine (((pre_sortTree_perm key rev t).filter _).map _).trans (.of_eq ?_)
  rw [List.filter_map, List.map_map]
  simp only [leafIds, Function.comp_def, sortTree_isLeaf, sortTree_id]

theorem leafIdsL_eq_flatMap (f : List Tree) : leafIdsL f = f.flatMap leafIds := by
  rw [leafIdsL, preL_eq_flatMap, List.filter_flatMap, List.map_flatMap]; rfl

/-- the `is_leaf` shortcut of `sorted_leaves` agrees with the general formula -/
theorem sortedLeaves_eq (key : Nat → Int) (rev : Bool) (t : Tree) :
    Plot.sortedLeaves key rev t =
      (((pre (Plot.sortTree key (!rev) t)).reverse).filter Tree.isLeaf).map Tree.id := by
  unfold Plot.sortedLeaves
  split
  · next h =>
    cases t with | node i o ks =>
    obtain rfl : ks = [] := by simpa [isLeaf] using h
    simp [Plot.sortTree, Plot.sortTreeL, (sortedPy_perm key (!rev) []).eq_nil, pre, preL, h]
  · rfl

theorem sortedLeaves_perm (key : Nat → Int) (rev : Bool) (t : Tree) :
    (Plot.sortedLeaves key rev t).Perm (leafIds t) := by
  rw [sortedLeaves_eq]
  exact (((List.reverse_perm _).filter _).map _).trans (sortTree_leafIds_perm key (!rev) t)

theorem leafOrder_perm (key : Nat → Int) (rev : Bool) (f : List Tree) :
    (Plot.leafOrder key rev f).Perm (leafIdsL f) := by
  unfold Plot.leafOrder
  rw [leafIdsL_eq_flatMap]
  exact (List.Perm.flatMap_left' _ fun t _ => sortedLeaves_perm key rev t).trans
    ((sortedPy_perm key rev f).flatMap_right _)

theorem sortedLeaves_infix (key : Nat → Int) (rev : Bool) {t u : Tree} (h : t ∈ pre u) :
    Plot.sortedLeaves key rev t <:+: Plot.sortedLeaves key rev u := by
  rw [sortedLeaves_eq, sortedLeaves_eq]
  exact (((pre_infix (sortTree_mem_pre key (!rev) h)).reverse).filter _).map _

theorem sortedLeaves_infix_leafOrder (key : Nat → Int) (rev : Bool) {f : List Tree} {t : Tree} (h : t ∈ preL f) :
    Plot.sortedLeaves key rev t <:+: Plot.leafOrder key rev f := by
  obtain ⟨u, huf, htu⟩ := mem_preL.mp h
  rw [Plot.leafOrder, List.flatMap_def]
  exact (sortedLeaves_infix key rev htu).trans
    (List.infix_of_mem_flatten (List.mem_map_of_mem ((sortedPy_perm key rev f).mem_iff.mpr huf)))

-- `Plot.minQ' (x :: xs)` unfolds to `(x :: xs).min?`, so `List.min?_eq_some_iff` would give the first bound; its `max?`
-- twin needs `Std.LawfulOrderMax Rat`, which core Lean does not provide.  Both go through one lemma on selecting folds.
theorem minQ'_le : ∀ ps : List Rat, ∀ y ∈ ps, Plot.minQ' ps ≤ y
  | [] => fun _ h => nomatch h
  | x :: xs => List.foldl_sel_bound (· ≤ ·) min (fun _ => Rat.le_refl) (fun _ _ _ => Rat.le_trans)
      (fun _ _ => Std.min_le_left) (fun _ _ => Std.min_le_right) xs x

theorem le_maxQ' : ∀ ps : List Rat, ∀ y ∈ ps, y ≤ Plot.maxQ' ps
  | [] => fun _ h => nomatch h
  | x :: xs => List.foldl_sel_bound (· ≥ ·) max (fun _ => Rat.le_refl) (fun _ _ _ h1 h2 => Rat.le_trans h2 h1)
      (fun a b => by rw [Rat.max_def]; split <;> simp [*])
      (fun a b => by rw [Rat.max_def]; split <;> simp [Rat.le_of_lt, Rat.not_le.mp, *]) xs x

theorem sum_bounds (m M : Rat) (ps : List Rat) (hm : ∀ y ∈ ps, m ≤ y) (hM : ∀ y ∈ ps, y ≤ M) :
    m * (ps.length : Rat) ≤ ps.sum ∧ ps.sum ≤ M * (ps.length : Rat) := by
  induction ps with
  | nil => simp [Rat.mul_zero]
  | cons a as ih =>
    have ⟨h1, h2⟩ := ih (fun y hy => hm y (List.mem_cons_of_mem _ hy)) (fun y hy => hM y (List.mem_cons_of_mem _ hy))
    rw [List.sum_cons, List.length_cons, Rat.natCast_add, Rat.mul_add, Rat.mul_add, Rat.natCast_ofNat, Rat.mul_one,
      Rat.mul_one, Rat.add_comm a]
    exact ⟨Lean.Grind.OrderedAdd.add_le_add h1 (hm a List.mem_cons_self),
      Lean.Grind.OrderedAdd.add_le_add h2 (hM a List.mem_cons_self)⟩

theorem meanQ_between {m M : Rat} {ps : List Rat} (h : ps ≠ []) (hm : ∀ y ∈ ps, m ≤ y) (hM : ∀ y ∈ ps, y ≤ M) :
    m ≤ Plot.meanQ ps ∧ Plot.meanQ ps ≤ M := by
  have hpos : (0 : Rat) < (ps.length : Rat) := Rat.natCast_pos.mpr (List.length_pos_iff.mpr h)
  have hb := sum_bounds m M ps hm hM
  rw [Plot.meanQ, if_neg (by simpa using h), ← List.sum_eq_foldl]
  exact ⟨Rat.not_lt.mp fun hlt => Rat.not_lt.mpr hb.1 ((Rat.div_lt_iff hpos).mp hlt),
    Rat.not_lt.mp fun hlt => Rat.not_lt.mpr hb.2 ((Rat.lt_div_iff hpos).mp hlt)⟩

theorem linesL_eq_flatMap (val : Nat → Int) (order : List Nat) (parentH : Option Int) (l : List Tree) :
    Plot.linesL val order parentH l = l.flatMap (Plot.lines val order parentH) := by
  induction l with
  | nil => rfl
  | cons t ts ih => rw [Plot.linesL, ih, List.flatMap_cons]

theorem lines_count_both (val : Nat → Int) (order : List Nat) :
    (∀ t : Tree, ∀ parentH, (Plot.lines val order parentH t).length =
      (Tree.pre t).length + ((Tree.pre t).filter (fun s => !s.isLeaf)).length) ∧
    (∀ l : List Tree, ∀ parentH, (Plot.linesL val order parentH l).length =
      (Tree.preL l).length + ((Tree.preL l).filter (fun s => !s.isLeaf)).length) := by
  apply Tree.forest_induction
  · intro i o ks ih parentH
    simp only [Plot.lines, pre, List.length_cons, List.length_append, ih, List.filter_cons,
      isLeaf, Tree.kids]
    by_cases h : ks.isEmpty <;> simp [h] <;> omega
  · intro parentH; simp [Plot.linesL, preL]
  · intro t ts iht ihts parentH
    simp only [Plot.linesL, preL, List.length_append, List.filter_append, iht, ihts]
    omega

theorem posL_eq_map (order : List Nat) (ks : List Tree) :
    Plot.posL order ks = ks.map (Plot.pos order) := by
  induction ks with
  | nil => simp [Plot.posL]
  | cons t ts ih => simp [Plot.posL, ih]

theorem nested_or_disjoint :
    (∀ u : Tree, ((pre u).map Tree.id).Nodup → ∀ t ∈ pre u, ∀ t' ∈ pre u,
      t ∈ pre t' ∨ t' ∈ pre t ∨ ∀ x ∈ pre t, ∀ y ∈ pre t', x.id ≠ y.id) ∧
    (∀ f : List Tree, ((preL f).map Tree.id).Nodup → ∀ t ∈ preL f, ∀ t' ∈ preL f,
      t ∈ pre t' ∨ t' ∈ pre t ∨ ∀ x ∈ pre t, ∀ y ∈ pre t', x.id ≠ y.id) := by
  apply Tree.forest_induction
  · intro i o ks ih hnd t ht t' ht'
    rw [pre, List.map_cons, List.nodup_cons] at hnd
    rcases mem_pre.mp ht with rfl | hk
    · exact .inr (.inl ht')
    · rcases mem_pre.mp ht' with rfl | hk'
      · exact .inl ht
      · exact ih hnd.2 t hk t' hk'
  · exact fun _ t ht => nomatch ht
  · intro u us ihu ihus hnd t ht t' ht'
    rw [preL_cons, List.map_append, List.nodup_append] at hnd
    obtain ⟨hu, hus, hdis⟩ := hnd
    have cross : ∀ a ∈ pre u, ∀ b ∈ preL us, ∀ x ∈ pre a, ∀ y ∈ pre b, x.id ≠ y.id :=
      fun a ha b hb x hx y hy => hdis _ (List.mem_map_of_mem (pre_subset_pre ha x hx)) _
        (List.mem_map_of_mem (pre_subset_preL hb y hy))
    rw [preL_cons, List.mem_append] at ht ht'
    rcases ht with ht | ht <;> rcases ht' with ht' | ht'
    · exact ihu hu t ht t' ht'
    · exact .inr (.inr (cross t ht t' ht'))
    · exact .inr (.inr fun x hx y hy e => cross t' ht' t ht y hy x hx e.symm)
    · exact ihus hus t ht t' ht'

end P15

theorem P31.pos_leaf (order : List Nat) (i : Nat) (o : List Nat) :
    Plot.pos order (.node i o []) = (Plot.idxOfNat order i : Rat) := by
  simp [Plot.pos]

theorem P31.pos_branch (order : List Nat) (i : Nat) (o : List Nat) (k : Tree) (ks : List Tree) :
    Plot.pos order (.node i o (k :: ks)) = Plot.meanQ (Plot.posL order (k :: ks)) := by
  simp [Plot.pos]

