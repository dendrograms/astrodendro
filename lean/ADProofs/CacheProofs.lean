import ADModel.Cache
import ADProofs.Links
import ADProofs.ListLemmas

/-!
# CacheProofs (P17, property C14): the per-object caches never go stale with the repaired `prune`

Model: `ADModel/Cache.lean`.  Two invariants.  `WF h` is `h.links.WF` of ADProofs/Links.lean field by field; its rank
`rk` (`rk parent < rk child`, `rk i < h.size`) is why fuel `h.size` is enough for every walk and gives the
specifications their recursion equations.  `Sound h`: every cache entry of an alive object is what the links specify
(`CacheOK`), and every parentless alive object has `_level = 0` (seeded by `_make_trunk`).

The specifications depend on the links only (`SameLinks`), and a cached query only adds entries that the links of the
heap it started from specify (`Fills h h'`), so it keeps `WF`, `Sound` and the links.  For `ancestor` the part
`P37.AncSound` of `Sound` is enough (`ancestor_spec`).  A prune changes the links (a legal merge is one pass over the
records, `merge_eq`, and contracts an edge) and then resets every cache: `prune_sound`.
-/

/-! Parent and children of an identifier.  The fixed definitions that the statements rest on (`P17.Legal`, `P37.LegalG`,
`P35.rootsOf`) spell the parent out as `(h.get i).bind (·.parent)`; `P41.parentOf h i`, `Heap.fParent h i` of
ADModel/HeapPrim.lean and `h.links.parentOf i` unfold to that very term, and likewise `P41.kidsOf`, `Heap.fKids`,
`h.links.kidsOf` for the children.  A hypothesis in one spelling is accepted where another is expected; only `rw` and
`simp` see the difference. -/

namespace P41

/-- `struct.children` (empty for a missing object) -/
def kidsOf (h : Heap) (i : Nat) : List Nat := ((h.get i).map (·.kids)).getD []

/-- `struct.parent` -/
def parentOf (h : Heap) (i : Nat) : Option Nat := (h.get i).bind (·.parent)

theorem kidsOf_eq {h : Heap} {i : Nat} {o : Obj} (hg : h.get i = some o) : kidsOf h i = o.kids := by
  simp [kidsOf, hg]

theorem parentOf_eq {h : Heap} {i : Nat} {o : Obj} (hg : h.get i = some o) : parentOf h i = o.parent := by
  simp [parentOf, hg]

theorem mem_kidsOf {h : Heap} {x c : Nat} : c ∈ kidsOf h x ↔ ∃ o, h.get x = some o ∧ c ∈ o.kids := by
  unfold kidsOf; cases h.get x <;> simp

end P41

namespace P17
open Heap
open P41 (kidsOf)

theorem get_id {h : Heap} {i : Nat} {o : Obj} (hget : h.get i = some o) : o.id = i := List.find?_key Obj.id hget

theorem get_update (h : Heap) (i : Nat) (f : Obj → Obj) (hf : ∀ o, (f o).id = o.id) (j : Nat) :
    (h.update i f).get j = if j = i then (h.get i).map f else h.get j :=
  List.find?_key_update Obj.id f i (fun o e => (hf o).trans e) h.objs j

/-- the `alive` lists play no part -/
theorem get_cons (o : Obj) (objs : List Obj) (al al' : List Nat) (x : Nat) :
    ({ objs := o :: objs, alive := al } : Heap).get x =
      if x = o.id then some o else ({ objs := objs, alive := al' } : Heap).get x := by
  unfold Heap.get
  simp only [List.find?_cons]
  by_cases hx : x = o.id
  · subst hx; simp
  · have : (o.id == x) = false := by simp; exact fun e => hx e.symm
    simp [this, hx]

@[simp] theorem update_alive (h : Heap) (i : Nat) (f : Obj → Obj) : (h.update i f).alive = h.alive := rfl
@[simp] theorem update_size (h : Heap) (i : Nat) (f : Obj → Obj) : (h.update i f).size = h.size := by
  simp [Heap.update, Heap.size]

structure SameLinks (h h' : Heap) : Prop where
  alive : h'.alive = h.alive
  size : h'.size = h.size
  links : ∀ i, (h'.get i).map (fun o => (o.parent, o.kids)) = (h.get i).map (fun o => (o.parent, o.kids))

theorem SameLinks.refl (h : Heap) : SameLinks h h := ⟨rfl, rfl, fun _ => rfl⟩

theorem SameLinks.symm {h h' : Heap} (s : SameLinks h h') : SameLinks h' h :=
  ⟨s.alive.symm, s.size.symm, fun i => (s.links i).symm⟩

theorem SameLinks.trans {h h' h'' : Heap} (s : SameLinks h h') (t : SameLinks h' h'') : SameLinks h h'' :=
  ⟨t.alive.trans s.alive, t.size.trans s.size, fun i => (t.links i).trans (s.links i)⟩

theorem SameLinks.get_some {h h' : Heap} (s : SameLinks h h') {i : Nat} {o : Obj} (hg : h.get i = some o) :
    ∃ o', h'.get i = some o' ∧ o'.parent = o.parent ∧ o'.kids = o.kids := by
  simpa [hg] using s.links i

theorem SameLinks.get_none {h h' : Heap} (s : SameLinks h h') {i : Nat} (hg : h.get i = none) :
    h'.get i = none := by
  simpa [hg] using s.links i

theorem sameLinks_update (h : Heap) (i : Nat) (f : Obj → Obj) (hid : ∀ o, (f o).id = o.id)
    (hp : ∀ o, (f o).parent = o.parent) (hk : ∀ o, (f o).kids = o.kids) : SameLinks h (h.update i f) := by
  refine ⟨rfl, by simp, fun j => ?_⟩
  rw [get_update h i f hid]
  split
  · subst j; cases h.get i <;> simp [hp, hk]
  · rfl

theorem specLevel_same {h h' : Heap} (s : SameLinks h h') (n i : Nat) :
    h'.specLevel n i = h.specLevel n i := by
  induction n generalizing i with
  | zero => rfl
  | succ n ih =>
    unfold Heap.specLevel
    cases hg : h.get i with
    | none => rw [s.get_none hg]
    | some o =>
      obtain ⟨o', hg', hp, _⟩ := s.get_some hg
      rw [hg']; simp only [hp]
      cases o.parent <;> simp [ih]

theorem specRoot_same {h h' : Heap} (s : SameLinks h h') (n i : Nat) :
    h'.specRoot n i = h.specRoot n i := by
  induction n generalizing i with
  | zero => rfl
  | succ n ih =>
    unfold Heap.specRoot
    cases hg : h.get i with
    | none => rw [s.get_none hg]
    | some o =>
      obtain ⟨o', hg', hp, _⟩ := s.get_some hg
      rw [hg']; simp only [hp]
      cases o.parent <;> simp [ih]

theorem kids_same {h h' : Heap} (s : SameLinks h h') (i : Nat) : kidsOf h' i = kidsOf h i := by
  have := congrArg (fun l => (l.map (·.2)).getD []) (s.links i)
  rwa [Option.map_map, Option.map_map] at this

theorem parent_same {h h' : Heap} (s : SameLinks h h') (i : Nat) :
    (h'.get i).bind (·.parent) = (h.get i).bind (·.parent) := by
  have := congrArg (·.bind (·.1)) (s.links i)
  rwa [Option.bind_map, Option.bind_map] at this

theorem specDesc_nil (h : Heap) (n : Nat) : h.specDesc n [] = [] := by
  cases n <;> simp [Heap.specDesc]

theorem specDesc_succ (h : Heap) (n : Nat) (fr : List Nat) :
    h.specDesc (n + 1) fr = fr.flatMap (kidsOf h) ++ h.specDesc n (fr.flatMap (kidsOf h)) := by
  rw [Heap.specDesc]
  split
  · rename_i he
    rw [show fr.flatMap (kidsOf h) = [] from List.isEmpty_iff.1 he, specDesc_nil]; rfl
  · rfl

theorem specDesc_same {h h' : Heap} (s : SameLinks h h') (n : Nat) (fr : List Nat) :
    h'.specDesc n fr = h.specDesc n fr := by
  induction n generalizing fr with
  | zero => rfl
  | succ n ih => rw [specDesc_succ, specDesc_succ, funext (kids_same s), ih]

theorem specNewick_same {h h' : Heap} (s : SameLinks h h') (n i : Nat) :
    h'.specNewick n i = h.specNewick n i := by
  induction n generalizing i with
  | zero => rfl
  | succ n ih =>
    unfold Heap.specNewick
    cases hg : h.get i with
    | none => rw [s.get_none hg]
    | some o =>
      obtain ⟨o', hg', _, hk⟩ := s.get_some hg
      rw [hg']; simp only [hk]
      have : List.map (h'.specNewick n) o.kids = List.map (h.specNewick n) o.kids :=
        List.map_congr_left (fun c _ => ih c)
      rw [this]

/-- `a` is a proper ancestor of `i` -/
inductive Reach (h : Heap) : Nat → Nat → Prop
  | one {i o p} : h.get i = some o → o.parent = some p → Reach h i p
  | step {i o p a} : h.get i = some o → o.parent = some p → Reach h p a → Reach h i a

theorem Reach.persist {h h' : Heap}
    (hp : ∀ x o p, h.get x = some o → o.parent = some p → ∃ o', h'.get x = some o' ∧ o'.parent = some p)
    {i a : Nat} (r : Reach h i a) : Reach h' i a := by
  induction r with
  | one hg hpar => obtain ⟨o', hg', hp'⟩ := hp _ _ _ hg hpar; exact .one hg' hp'
  | step hg hpar _ ih => obtain ⟨o', hg', hp'⟩ := hp _ _ _ hg hpar; exact .step hg' hp' ih

theorem Reach.same {h h' : Heap} (s : SameLinks h h') {i a : Nat} (r : Reach h i a) : Reach h' i a :=
  r.persist fun _ _ _ hg hp => have ⟨o', hg', hp', _⟩ := s.get_some hg; ⟨o', hg', hp'.trans hp⟩

theorem Reach.trans {h : Heap} {i a b : Nat} (r : Reach h i a) (t : Reach h a b) : Reach h i b := by
  induction r with
  | one hg hp => exact .step hg hp t
  | step hg hp _ ih => exact .step hg hp (ih t)

def RankOK (h : Heap) (rk : Nat → Nat) : Prop :=
  ∀ i ∈ h.alive, ∀ o, h.get i = some o → rk i < h.size ∧ ∀ p, o.parent = some p → rk p < rk i

structure WF (h : Heap) : Prop where
  alive_nodup : h.alive.Nodup
  alive_get : ∀ i ∈ h.alive, ∃ o, h.get i = some o
  parent_ok : ∀ i ∈ h.alive, ∀ o, h.get i = some o → ∀ p, o.parent = some p →
    p ∈ h.alive ∧ ∃ po, h.get p = some po ∧ i ∈ po.kids
  kids_ok : ∀ i ∈ h.alive, ∀ o, h.get i = some o → ∀ c ∈ o.kids,
    c ∈ h.alive ∧ ∃ co, h.get c = some co ∧ co.parent = some i
  kids_nodup : ∀ i ∈ h.alive, ∀ o, h.get i = some o → o.kids.Nodup
  rank : ∃ rk, RankOK h rk

/-- `root` is of another kind, a cache that must be filled: the `level` loop stops at a cached `_level` only, so a
    parentless object has to carry `_level = 0` -/
structure CacheOK (h : Heap) (o : Obj) : Prop where
  lvl : ∀ l, o.lvl = some l → h.specLevel h.size o.id = some l
  anc : ∀ a, o.anc = some a → Reach h o.id a
  desc : ∀ d, o.desc = some d → d = h.specDesc h.size [o.id]
  nw : ∀ s, o.nw = some s → s = h.specNewick h.size o.id
  root : o.parent = none → o.lvl = some 0

def Sound (h : Heap) : Prop := ∀ i ∈ h.alive, ∀ o, h.get i = some o → CacheOK h o

/-- `WF h` is `h.links.WF` field by field (`WF.links`, `WF.of_links`); a `RankOK h rk` is accepted as
    `h.links.RankOK rk` as it stands -/
def _root_.Heap.links (h : Heap) : Links Obj := ⟨h.alive, h.size, h.get, Obj.parent, Obj.kids⟩

theorem WF.links {h : Heap} (w : WF h) : h.links.WF := ⟨w.1, w.2, w.3, w.4, w.5, w.6⟩
theorem WF.of_links {h : Heap} (w : h.links.WF) : WF h := ⟨w.1, w.2, w.3, w.4, w.5, w.6⟩

theorem WF.parent_ne {h : Heap} (w : WF h) {i : Nat} {o : Obj} (hi : i ∈ h.alive) (hg : h.get i = some o) :
    o.parent ≠ some i := by
  obtain ⟨rk, hr⟩ := w.rank
  intro hp
  have := (hr i hi o hg).2 i hp
  omega

theorem WF.same {h h' : Heap} (s : SameLinks h h') (w : WF h) : WF h' :=
  .of_links (w.links.congr (F' := h'.links) s.alive s.size s.links)

theorem WF.down_induction {h : Heap} (w : WF h) {rk} (hr : RankOK h rk) {motive : Nat → Nat → Prop}
    (step : ∀ n i o, i ∈ h.alive → h.get i = some o → h.size ≤ n + 1 + rk i →
      (∀ c ∈ o.kids, c ∈ h.alive ∧ h.size ≤ n + rk c ∧ motive n c) → motive (n + 1) i) :
    ∀ n i, i ∈ h.alive → h.size ≤ n + rk i → motive n i :=
  w.links.down_induction hr step

theorem WF.kid_rank {h : Heap} (w : WF h) {rk} (hr : RankOK h rk) {i c : Nat} {o : Obj} (hi : i ∈ h.alive)
    (hg : h.get i = some o) (hc : c ∈ o.kids) : c ∈ h.alive ∧ rk i < rk c :=
  w.links.kid_rank hr hi hg hc

theorem CacheOK.same {h h' : Heap} (s : SameLinks h h') {o : Obj} (c : CacheOK h o) : CacheOK h' o := by
  refine ⟨?_, ?_, ?_, ?_, c.root⟩
  · intro l hl; rw [s.size, specLevel_same s]; exact c.lvl l hl
  · intro a ha; exact (c.anc a ha).same s
  · intro d hd; rw [s.size, specDesc_same s]; exact c.desc d hd
  · intro t ht; rw [s.size, specNewick_same s]; exact c.nw t ht

/-- what cached queries make of a sound `h`.  The specifications are always those of `h`, so nothing has to be
    carried along the `SameLinks` while entries are added. -/
structure Fills (h h' : Heap) : Prop where
  same : SameLinks h h'
  ok : ∀ i ∈ h.alive, ∀ o', h'.get i = some o' → CacheOK h o'

theorem Fills.refl {h : Heap} (hs : Sound h) : Fills h h := ⟨.refl h, hs⟩

theorem Fills.done {h h' : Heap} (f : Fills h h') (w : WF h) : WF h' ∧ Sound h' ∧ SameLinks h h' :=
  ⟨w.same f.same, fun i hi o' hg' => (f.ok i (f.same.alive ▸ hi) o' hg').same f.same, f.same⟩

theorem Fills.update {h h' : Heap} (f : Fills h h') (i : Nat) (g : Obj → Obj) (hid : ∀ o, (g o).id = o.id)
    (hp : ∀ o, (g o).parent = o.parent) (hk : ∀ o, (g o).kids = o.kids)
    (hc : ∀ o', h'.get i = some o' → CacheOK h o' → CacheOK h (g o')) : Fills h (h'.update i g) := by
  refine ⟨f.same.trans (sameLinks_update h' i g hid hp hk), fun j hj o' hg' => ?_⟩
  rw [get_update h' i g hid] at hg'
  split at hg'
  · subst j
    obtain ⟨o, hg, rfl⟩ := Option.map_eq_some_iff.1 hg'
    exact hc o hg (f.ok i hj o hg)
  · exact f.ok j hj o' hg'

theorem specLevel_mono_le {h : Heap} {n m i l : Nat} (hl : h.specLevel n i = some l) (hnm : n ≤ m) :
    h.specLevel m i = some l := by
  induction n generalizing m i l with
  | zero => cases hl
  | succ n ih =>
    obtain _ | m := m
    · cases hnm
    unfold Heap.specLevel at hl ⊢
    cases hg : h.get i with
    | none => simp [hg] at hl
    | some o =>
      simp only [hg] at hl ⊢
      cases hp : o.parent with
      | none => simpa [hp] using hl
      | some p =>
        simp only [hp, Option.map_eq_some_iff] at hl ⊢
        obtain ⟨a, ha, rfl⟩ := hl
        exact ⟨a, ih ha (Nat.le_of_succ_le_succ hnm), rfl⟩

theorem specRoot_mono_le {h : Heap} {n m i l : Nat} (hl : h.specRoot n i = some l) (hnm : n ≤ m) :
    h.specRoot m i = some l := by
  induction n generalizing m i l with
  | zero => cases hl
  | succ n ih =>
    obtain _ | m := m
    · cases hnm
    unfold Heap.specRoot at hl ⊢
    cases hg : h.get i with
    | none => simp [hg] at hl
    | some o =>
      simp only [hg] at hl ⊢
      cases hp : o.parent with
      | none => simpa [hp] using hl
      | some p => simp only [hp] at hl ⊢; exact ih hl (Nat.le_of_succ_le_succ hnm)

theorem Reach.alive_rank {h : Heap} (w : WF h) {rk} (hr : RankOK h rk) {i a : Nat} (r : Reach h i a)
    (hi : i ∈ h.alive) : a ∈ h.alive ∧ rk a < rk i := by
  induction r with
  | one hg hp => exact ⟨(w.parent_ok _ hi _ hg _ hp).1, (hr _ hi _ hg).2 _ hp⟩
  | step hg hp _ ih =>
    have h1 := ih (w.parent_ok _ hi _ hg _ hp).1
    have h2 := (hr _ hi _ hg).2 _ hp
    exact ⟨h1.1, by omega⟩

theorem Reach.alive {h : Heap} (w : WF h) {i a : Nat} (r : Reach h i a) (hi : i ∈ h.alive) : a ∈ h.alive := by
  obtain ⟨rk, hr⟩ := w.rank
  exact (r.alive_rank w hr hi).1

/-- from `i` a walk towards the root may go on at any proper ancestor (the parent, or a cached `_ancestor`) with
    one unit of fuel less; fuel `> rk i`, in particular `h.size`, is enough -/
theorem WF.reach_induction {h : Heap} (w : WF h) {rk} (hr : RankOK h rk) {motive : Nat → Nat → Prop}
    (step : ∀ n i o, i ∈ h.alive → h.get i = some o → (∀ a, Reach h i a → a ∈ h.alive ∧ motive n a) →
      motive (n + 1) i) :
    ∀ n i, i ∈ h.alive → rk i < n → motive n i := by
  intro n
  induction n with
  | zero => intro i _ hn; omega
  | succ n ih =>
    intro i hi hn
    obtain ⟨o, hg⟩ := w.alive_get i hi
    refine step n i o hi hg fun a t => ?_
    have := t.alive_rank w hr hi
    exact ⟨this.1, ih a this.1 (by omega)⟩

theorem specLevel_isSome {h : Heap} (w : WF h) {rk} (hr : RankOK h rk) (n i : Nat) (hi : i ∈ h.alive)
    (hn : rk i < n) : ∃ l, h.specLevel n i = some l := by
  refine w.reach_induction hr (motive := fun n i => ∃ l, h.specLevel n i = some l) ?_ n i hi hn
  intro n i o _ hg ih
  unfold Heap.specLevel
  simp only [hg]
  cases hp : o.parent with
  | none => exact ⟨0, rfl⟩
  | some p =>
    obtain ⟨l, hl⟩ := (ih p (.one hg hp)).2
    exact ⟨l + 1, by simp [hl]⟩

theorem specRoot_isSome {h : Heap} (w : WF h) {rk} (hr : RankOK h rk) (n i : Nat) (hi : i ∈ h.alive)
    (hn : rk i < n) : ∃ l, h.specRoot n i = some l := by
  refine w.reach_induction hr (motive := fun n i => ∃ l, h.specRoot n i = some l) ?_ n i hi hn
  intro n i o _ hg ih
  unfold Heap.specRoot
  simp only [hg]
  cases hp : o.parent with
  | none => exact ⟨i, rfl⟩
  | some p => exact (ih p (.one hg hp)).2

theorem specLevel_alive {h : Heap} (w : WF h) {i : Nat} (hi : i ∈ h.alive) : ∃ l, h.specLevel h.size i = some l := by
  obtain ⟨rk, hr⟩ := w.rank
  obtain ⟨o, hg⟩ := w.alive_get i hi
  exact specLevel_isSome w hr h.size i hi (hr i hi o hg).1

theorem specRoot_alive {h : Heap} (w : WF h) {i : Nat} (hi : i ∈ h.alive) : ∃ r, h.specRoot h.size i = some r := by
  obtain ⟨rk, hr⟩ := w.rank
  obtain ⟨o, hg⟩ := w.alive_get i hi
  exact specRoot_isSome w hr h.size i hi (hr i hi o hg).1

theorem size_eq (h : Heap) : h.size = h.objs.length + 1 := rfl

theorem specLevel_root {h : Heap} {i : Nat} {o : Obj} (hg : h.get i = some o) (hp : o.parent = none) :
    h.specLevel h.size i = some 0 := by
  rw [size_eq]; unfold Heap.specLevel; simp [hg, hp]

theorem lvl_seeded {h : Heap} {i : Nat} {o : Obj} (hg : h.get i = some o)
    (ho : o.lvl = if o.parent = none then some 0 else none) (l : Nat) (hl : o.lvl = some l) :
    h.specLevel h.size o.id = some l := by
  by_cases hp : o.parent = none
  · cases (if_pos hp).symm.trans (ho.symm.trans hl)
    exact get_id hg ▸ specLevel_root hg hp
  · cases (if_neg hp).symm.trans (ho.symm.trans hl)

/-- caches as a reset followed by `_make_trunk` leaves them are sound whatever the links are -/
theorem sound_of_seeded {h : Heap} (k : ∀ i ∈ h.alive, ∀ o, h.get i = some o →
    o.anc = none ∧ o.desc = none ∧ o.nw = none ∧ o.lvl = if o.parent = none then some 0 else none) : Sound h := by
  intro i hi o hg
  obtain ⟨ka, kd, kn, kl⟩ := k i hi o hg
  exact ⟨lvl_seeded hg kl, by simp [ka], by simp [kd], by simp [kn], fun hp => kl.trans (if_pos hp)⟩

theorem specRoot_root {h : Heap} {i : Nat} {o : Obj} (hg : h.get i = some o) (hp : o.parent = none) :
    h.specRoot h.size i = some i := by
  rw [size_eq]; unfold Heap.specRoot; simp [hg, hp]

theorem specLevel_step {h : Heap} (w : WF h) {i p v : Nat} {o : Obj} (hi : i ∈ h.alive)
    (hg : h.get i = some o) (hp : o.parent = some p) (hv : h.specLevel h.size p = some v) :
    h.specLevel h.size i = some (v + 1) := by
  obtain ⟨rk, hr⟩ := w.rank
  have hpa := (w.parent_ok i hi o hg p hp).1
  have h1 := hr i hi o hg
  have h2 := h1.2 p hp
  obtain ⟨l, hl⟩ := specLevel_isSome w hr h.objs.length p hpa (by rw [size_eq] at h1; omega)
  cases (specLevel_mono_le hl (Nat.le_succ _)).symm.trans hv
  rw [size_eq]; unfold Heap.specLevel; simp [hg, hp, hl]

theorem specRoot_step {h : Heap} (w : WF h) {i p v : Nat} {o : Obj} (hi : i ∈ h.alive)
    (hg : h.get i = some o) (hp : o.parent = some p) (hv : h.specRoot h.size p = some v) :
    h.specRoot h.size i = some v := by
  obtain ⟨rk, hr⟩ := w.rank
  have hpa := (w.parent_ok i hi o hg p hp).1
  have h1 := hr i hi o hg
  have h2 := h1.2 p hp
  obtain ⟨l, hl⟩ := specRoot_isSome w hr h.objs.length p hpa (by rw [size_eq] at h1; omega)
  cases (specRoot_mono_le hl (Nat.le_succ _)).symm.trans hv
  rw [size_eq]; unfold Heap.specRoot; simp [hg, hp, hl]

theorem Reach.specRoot {h : Heap} (w : WF h) {i a r : Nat} (t : Reach h i a) (hi : i ∈ h.alive)
    (hv : h.specRoot h.size a = some r) : h.specRoot h.size i = some r := by
  induction t with
  | one hg hp => exact specRoot_step w hi hg hp hv
  | step hg hp _ ih => exact specRoot_step w hi hg hp (ih (w.parent_ok _ hi _ hg _ hp).1 hv)

theorem specRoot_reach {h : Heap} {n a r : Nat} (hv : h.specRoot n a = some r) :
    (a = r ∨ Reach h a r) ∧ ∃ ro, h.get r = some ro ∧ ro.parent = none := by
  induction n generalizing a with
  | zero => simp [Heap.specRoot] at hv
  | succ n ih =>
    unfold Heap.specRoot at hv
    cases hg : h.get a with
    | none => simp [hg] at hv
    | some o =>
      simp only [hg] at hv
      cases hp : o.parent with
      | none =>
        simp only [hp, Option.some.injEq] at hv
        subst hv
        exact ⟨.inl rfl, o, hg, hp⟩
      | some p =>
        simp only [hp] at hv
        obtain ⟨e | t, hr⟩ := ih hv
        · exact ⟨.inr (.one hg (e ▸ hp)), hr⟩
        · exact ⟨.inr (.step hg hp t), hr⟩

theorem walkLevel_spec {h : Heap} (w : WF h) (hs : Sound h) {j : Nat} (hj : j ∈ h.alive) (d : Nat) :
    ∃ l k, h.walkLevel h.size j d = some (l, d + k) ∧ h.specLevel h.size j = some (l + k) := by
  obtain ⟨rk, hr⟩ := w.rank
  obtain ⟨jo, hgj⟩ := w.alive_get j hj
  refine w.reach_induction hr (motive := fun n j => ∀ d, ∃ l k, h.walkLevel n j d = some (l, d + k) ∧
    h.specLevel h.size j = some (l + k)) ?_ h.size j hj (hr j hj jo hgj).1 d
  intro n j o hj hg ih d
  unfold Heap.walkLevel
  simp only [hg]
  cases hl : o.lvl with
  | some l => exact ⟨l, 0, rfl, get_id hg ▸ (hs j hj o hg).lvl l hl⟩
  | none =>
    cases hp : o.parent with
    | none => have := (hs j hj o hg).root hp; simp [hl] at this
    | some p =>
      obtain ⟨l, k, h1, h2⟩ := (ih p (.one hg hp)).2 (d + 1)
      exact ⟨l, k + 1, by simp only [h1]; congr 2; omega, specLevel_step w hj hg hp h2⟩

theorem Fills.setLvl {h h' : Heap} (f : Fills h h') {i v : Nat} (hv : h.specLevel h.size i = some v) :
    Fills h (h'.update i (fun o => { o with lvl := some v })) := by
  refine f.update i _ (fun _ => rfl) (fun _ => rfl) (fun _ => rfl) fun o' hg' c => ?_
  refine ⟨fun l hl => ?_, c.anc, c.desc, c.nw, fun hp => ?_⟩
  · cases hl; rw [get_id hg']; exact hv
  · obtain ⟨o, hg, hpo, _⟩ := f.same.symm.get_some hg'
    cases (specLevel_root hg (hpo.trans hp)).symm.trans hv
    rfl

theorem level_fills {h : Heap} {i : Nat} (hwf : WF h) (hs : Sound h) (hi : i ∈ h.alive) :
    (h.level h.size i).2 = h.specLevel h.size i ∧ Fills h (h.level h.size i).1 := by
  obtain ⟨o, hg⟩ := hwf.alive_get i hi
  have f := Fills.refl hs
  unfold Heap.level
  simp only [hg]
  cases hl : o.lvl with
  | some l => exact ⟨(get_id hg ▸ (hs i hi o hg).lvl l hl).symm, f⟩
  | none =>
    cases hp : o.parent with
    | none => have := (hs i hi o hg).root hp; simp [hl] at this
    | some p =>
      obtain ⟨hpa, po, hgp, _⟩ := hwf.parent_ok i hi o hg p hp
      simp only [hgp, Option.bind_some]
      cases hpl : po.lvl with
      | some pl =>
        have hiv := specLevel_step hwf hi hg hp (get_id hgp ▸ (hs p hpa po hgp).lvl pl hpl)
        exact ⟨hiv.symm, f.setLvl hiv⟩
      | none =>
        obtain ⟨l, k, h1, h2⟩ := walkLevel_spec hwf hs hpa 1
        have hiv := specLevel_step hwf hi hg hp h2
        simp only [h1]
        rw [show l + (1 + k) = l + k + 1 by omega, Nat.add_sub_cancel]
        exact ⟨hiv.symm, (f.setLvl hiv).setLvl h2⟩

end P17

namespace P37
open Heap P17

/-- the part of `P17.Sound` that `ancestor` needs, and the part that already holds while `compute` builds the heap
    (GrowProofs) -/
def AncSound (h : Heap) : Prop :=
  ∀ i ∈ h.alive, ∀ o, h.get i = some o → ∀ a, o.anc = some a → Reach h i a

theorem Sound.ancSound {h : Heap} (hs : Sound h) : AncSound h := by
  intro i hi o hg a ha
  have := (hs i hi o hg).anc a ha
  rwa [get_id hg] at this

end P37

namespace P17
open Heap P37

theorem walkAnc_stop {h : Heap} {a : Nat} {ao : Obj} (hg : h.get a = some ao) (hp : ao.parent = none)
    (fuel : Nat) : h.walkAnc (fuel + 1) a = some a := by
  rw [Heap.walkAnc]
  simp only [hg, hp]

theorem walkAnc_step {h : Heap} {a ap : Nat} {ao : Obj} (hg : h.get a = some ao) (hp : ao.parent = some ap)
    (fuel : Nat) : h.walkAnc (fuel + 1) a = h.walkAnc fuel (ao.anc.getD ap) := by
  rw [Heap.walkAnc]
  simp only [hg, hp]
  cases ao.anc <;> rfl

theorem Reach.hop {h : Heap} (hs : AncSound h) {a ap : Nat} {ao : Obj} (ha : a ∈ h.alive)
    (hg : h.get a = some ao) (hp : ao.parent = some ap) : Reach h a (ao.anc.getD ap) := by
  cases hc : ao.anc with
  | none => exact .one hg hp
  | some aa => exact hs a ha ao hg aa hc

theorem walkAnc_spec {h : Heap} (w : WF h) (hs : AncSound h) {rk} (hr : RankOK h rk) (fuel a : Nat)
    (ha : a ∈ h.alive) (hf : rk a < fuel) :
    ∃ r, h.walkAnc fuel a = some r ∧ h.specRoot h.size a = some r := by
  refine w.reach_induction hr (motive := fun n a => ∃ r, h.walkAnc n a = some r ∧ h.specRoot h.size a = some r)
    ?_ fuel a ha hf
  intro n a ao ha hg ih
  cases hp : ao.parent with
  | none => exact ⟨a, walkAnc_stop hg hp n, specRoot_root hg hp⟩
  | some ap =>
    have t := Reach.hop hs ha hg hp
    obtain ⟨r, h1, h2⟩ := (ih _ t).2
    exact ⟨r, (walkAnc_step hg hp n).trans h1, t.specRoot w ha h2⟩

theorem ancestor_spec {h : Heap} {i : Nat} (hwf : WF h) (hs : AncSound h) (hi : i ∈ h.alive) :
    (h.ancestor h.size i).2 = h.specRoot h.size i ∧
      ((h.ancestor h.size i).1 = h ∨
        ∃ r, Reach h i r ∧ (h.ancestor h.size i).1 = h.update i (fun o => { o with anc := some r })) := by
  obtain ⟨o, hg⟩ := hwf.alive_get i hi
  unfold Heap.ancestor
  simp only [hg]
  cases hp : o.parent with
  | none => exact ⟨(specRoot_root hg hp).symm, .inl rfl⟩
  | some p =>
    simp only []
    obtain ⟨rk, hr⟩ := hwf.rank
    have t : Reach h i (o.anc.getD p) := .hop hs hi hg hp
    have har := t.alive_rank hwf hr hi
    obtain ⟨r, h1, h2⟩ := walkAnc_spec hwf hs hr h.size _ har.1 (by have := (hr i hi o hg).1; omega)
    simp only [h1]
    refine ⟨(t.specRoot hwf hi h2).symm, .inr ⟨r, ?_, rfl⟩⟩
    rcases (specRoot_reach h2).1 with e | t'
    · exact e ▸ t
    · exact t.trans t'

theorem ancestor_fills {h : Heap} {i : Nat} (hwf : WF h) (hs : Sound h) (hi : i ∈ h.alive) :
    (h.ancestor h.size i).2 = h.specRoot h.size i ∧ Fills h (h.ancestor h.size i).1 := by
  obtain ⟨h1, e | ⟨r, tr, e⟩⟩ := ancestor_spec hwf (Sound.ancSound hs) hi <;> refine ⟨h1, ?_⟩ <;> rw [e]
  · exact .refl hs
  · refine (Fills.refl hs).update i _ (fun _ => rfl) (fun _ => rfl) (fun _ => rfl) fun o' hg' c' => ?_
    exact ⟨c'.lvl, fun a ha => by cases ha; rw [get_id hg']; exact tr, c'.desc, c'.nw, c'.root⟩

/-- `Heap.descendants` does not run the level-by-level loop of the code: on a miss it stores `specDesc h fuel [i]`
    itself, so the answer is the specification by `rfl` and only the bookkeeping of the cache is proved here.  The
    loop is in the translation of the Python text and is compared with `specDesc` in ADGen/EquivHeapDesc.lean. -/
theorem descendants_fills {h : Heap} {i : Nat} (hwf : WF h) (hs : Sound h) (hi : i ∈ h.alive) :
    (h.descendants h.size i).2 = some (h.specDesc h.size [i]) ∧ Fills h (h.descendants h.size i).1 := by
  obtain ⟨o, hg⟩ := hwf.alive_get i hi
  unfold Heap.descendants
  simp only [hg]
  cases hd : o.desc with
  | some d => exact ⟨by rw [(hs i hi o hg).desc d hd, get_id hg], .refl hs⟩
  | none =>
    refine ⟨rfl, (Fills.refl hs).update i _ (fun _ => rfl) (fun _ => rfl) (fun _ => rfl) fun o' hg' c' => ?_⟩
    exact ⟨c'.lvl, c'.anc, fun d hd => by cases hd; rw [get_id hg'], c'.nw, c'.root⟩

/-- one unfolding of `specNewick`, the recursive calls being `f` -/
def newickBody (i : Nat) (o : Obj) (f : Nat → String) : String :=
  if o.kids.isEmpty then toString i else "(" ++ ",".intercalate (o.kids.map f) ++ ")" ++ toString i

theorem specNewick_unfold {h : Heap} (w : WF h) {i : Nat} {o : Obj} (hi : i ∈ h.alive) (hg : h.get i = some o) :
    h.specNewick h.size i = newickBody i o (h.specNewick h.size) :=
  w.links.fuel_unfold (fun n i => h.specNewick n i) newickBody
    (fun n i o hg => by simp only [Heap.specNewick, show h.get i = some o from hg]; rfl)
    (fun i o f g _ (hfg : ∀ c ∈ o.kids, f c = g c) => by unfold newickBody; rw [List.map_congr_left hfg]) hi hg

theorem newick_fold {h0 : Heap} {fuel : Nat} (P : Heap → Prop) (ks : List Nat)
    (hrec : ∀ c ∈ ks, ∀ h', P h' → (h'.newick fuel c).2 = h0.specNewick h0.size c ∧ P (h'.newick fuel c).1)
    (h1 : Heap) (acc : List String) (hP : P h1) :
    (ks.foldl (fun (acc : Heap × List String) c =>
          let (h2, s) := Heap.newick acc.1 fuel c
          (h2, acc.2 ++ [s])) (h1, acc)).2 = acc ++ ks.map (h0.specNewick h0.size) ∧
    P (ks.foldl (fun (acc : Heap × List String) c =>
          let (h2, s) := Heap.newick acc.1 fuel c
          (h2, acc.2 ++ [s])) (h1, acc)).1 := by
  induction ks generalizing h1 acc with
  | nil => simp [hP]
  | cons c ks ih =>
    simp only [List.foldl_cons, List.map_cons]
    obtain ⟨e, hP'⟩ := hrec c (List.mem_cons_self) h1 hP
    have := ih (fun c' hc' => hrec c' (List.mem_cons_of_mem _ hc')) (h1.newick fuel c).1
      (acc ++ [(h1.newick fuel c).2]) hP'
    simpa [e] using this

/-- The recursive calls of `newick` run on heaps that earlier calls have already written to.  So the statement is
    about any `h` with `Fills h0 h`, compared with the specification of the heap `h0` the query started from: the
    fold over the children hands `Fills h0` from one call to the next (`newick_fold`). -/
theorem newick_spec {h0 : Heap} (w : WF h0) {rk} (hr : RankOK h0 rk) :
    ∀ (fuel i : Nat), i ∈ h0.alive → h0.size ≤ fuel + rk i → ∀ h : Heap, Fills h0 h →
      (h.newick fuel i).2 = h0.specNewick h0.size i ∧ Fills h0 (h.newick fuel i).1 := by
  refine w.down_induction hr ?_
  intro fuel i o0 hi hg0 _ ih h f
  obtain ⟨o, hg, hpo, hko⟩ := f.same.get_some hg0
  unfold Heap.newick
  simp only [hg]
  cases hn : o.nw with
  | some t => exact ⟨by rw [(f.ok i hi o hg).nw t hn, get_id hg], f⟩
  | none =>
    simp only []
    have hfold := newick_fold (h0 := h0) (fuel := fuel) (Fills h0) o.kids
      (fun c hck h' f' => (ih c (hko ▸ hck)).2.2 h' f') h [] f
    generalize o.kids.foldl (fun (acc : Heap × List String) c =>
        let (h2, s) := Heap.newick acc.1 fuel c
        (h2, acc.2 ++ [s])) (h, []) = res at hfold
    obtain ⟨h', strs⟩ := res
    obtain ⟨hstrs, f'⟩ := hfold
    simp only [List.nil_append] at hstrs
    subst hstrs
    have hspec : h0.specNewick h0.size i = newickBody i o (h0.specNewick h0.size) := by
      rw [specNewick_unfold w hi hg0]; unfold newickBody; rw [hko]
    refine ⟨hspec.symm, f'.update i _ (fun _ => rfl) (fun _ => rfl) (fun _ => rfl) fun o' hg' c' => ?_⟩
    exact ⟨c'.lvl, c'.anc, c'.desc, fun t ht => by cases ht; rw [get_id hg', hspec]; rfl, c'.root⟩

theorem newick_fills {h : Heap} {i : Nat} (hwf : WF h) (hs : Sound h) (hi : i ∈ h.alive) :
    (h.newick h.size i).2 = h.specNewick h.size i ∧ Fills h (h.newick h.size i).1 := by
  obtain ⟨rk, hr⟩ := hwf.rank
  exact newick_spec hwf hr h.size i hi (by omega) h (.refl hs)

theorem foldl_setParent_eq (p : Nat) (ks : List Nat) (h : Heap) :
    ks.foldl (fun acc c => acc.update c (fun co => { co with parent := some p })) h =
      { h with objs := h.objs.map fun o => if o.id ∈ ks then { o with parent := some p } else o } := by
  induction ks generalizing h with
  | nil => simp
  | cons c ks ih =>
    rw [List.foldl_cons, ih]
    simp only [Heap.update, List.map_map]
    congr 1
    refine List.map_congr_left fun o _ => ?_
    by_cases hc : o.id = c <;> simp [hc]

theorem get_foldl_setParent (p : Nat) (ks : List Nat) (h : Heap) (x : Nat) :
    (ks.foldl (fun acc c => acc.update c (fun co => { co with parent := some p })) h).get x =
      if x ∈ ks then (h.get x).map (fun co => { co with parent := some p }) else h.get x := by
  rw [foldl_setParent_eq]
  refine (List.find?_key_map' Obj.id (fun x o => if x ∈ ks then { o with parent := some p } else o)
    (fun x o => by split <;> rfl) h.objs x).trans ?_
  split <;> simp [Heap.get]

theorem foldl_setParent_alive (p : Nat) (ks : List Nat) (h : Heap) :
    (ks.foldl (fun acc c => acc.update c (fun co => { co with parent := some p })) h).alive = h.alive := by
  rw [foldl_setParent_eq]

theorem foldl_setParent_size (p : Nat) (ks : List Nat) (h : Heap) :
    (ks.foldl (fun acc c => acc.update c (fun co => { co with parent := some p })) h).size = h.size := by
  rw [foldl_setParent_eq]; simp [Heap.size]

/-- what `mergeWithParent m` does to the object with identifier `x` (`mo` = the merged object,
    `p` = its parent) -/
def mergeF (m p : Nat) (mo : Obj) (x : Nat) (o : Obj) : Obj :=
  let o1 := if x = p then
      { resetCache { o with own := o.own ++ mo.own } with kids := o.kids.erase m ++ mo.kids }
    else o
  if x ∈ mo.kids then { o1 with parent := some p } else o1

theorem mergeF_fields (m p : Nat) (mo : Obj) (x : Nat) (o : Obj) :
    (mergeF m p mo x o).id = o.id ∧
    (mergeF m p mo x o).parent = (if x ∈ mo.kids then some p else o.parent) ∧
    (mergeF m p mo x o).kids = (if x = p then o.kids.erase m ++ mo.kids else o.kids) ∧
    (mergeF m p mo x o).own = (if x = p then o.own ++ mo.own else o.own) := by
  unfold mergeF resetCache; split <;> split <;> exact ⟨rfl, rfl, rfl, rfl⟩

theorem mergeF_id (m p : Nat) (mo : Obj) (x : Nat) (o : Obj) : (mergeF m p mo x o).id = o.id :=
  (mergeF_fields m p mo x o).1

theorem mergeF_parent (m p : Nat) (mo : Obj) (x : Nat) (o : Obj) :
    (mergeF m p mo x o).parent = if x ∈ mo.kids then some p else o.parent := (mergeF_fields m p mo x o).2.1

theorem mergeF_kids (m p : Nat) (mo : Obj) (x : Nat) (o : Obj) :
    (mergeF m p mo x o).kids = if x = p then o.kids.erase m ++ mo.kids else o.kids := (mergeF_fields m p mo x o).2.2.1

theorem merge_eq {h : Heap} {m p : Nat} {mo : Obj} (hgm : h.get m = some mo) (hmp : mo.parent = some p) :
    h.mergeWithParent m = { objs := h.objs.map fun o => mergeF m p mo o.id o, alive := h.alive.erase m } := by
  unfold Heap.mergeWithParent
  simp only [hgm, hmp]
  rw [foldl_setParent_eq]
  simp only [Heap.update, List.map_map]
  congr 1
  refine List.map_congr_left fun o _ => ?_
  unfold mergeF
  by_cases hp : o.id = p <;> simp only [beq_iff_eq, resetCache, Function.comp_apply, hp, ↓reduceIte]

theorem merge_get {h : Heap} {m p : Nat} {mo : Obj} (hgm : h.get m = some mo) (hmp : mo.parent = some p)
    (x : Nat) : (h.mergeWithParent m).get x = (h.get x).map (mergeF m p mo x) := by
  rw [merge_eq hgm hmp]
  exact List.find?_key_map' Obj.id (mergeF m p mo) (mergeF_id m p mo) h.objs x

theorem merge_alive {h : Heap} {m p : Nat} {mo : Obj} (hgm : h.get m = some mo) (hmp : mo.parent = some p) :
    (h.mergeWithParent m).alive = h.alive.erase m := by
  rw [merge_eq hgm hmp]

theorem merge_size (h : Heap) (m : Nat) : (h.mergeWithParent m).size = h.size := by
  cases hgm : h.get m with
  | none => simp only [Heap.mergeWithParent, hgm]
  | some mo =>
    cases hmp : mo.parent with
    | none => simp only [Heap.mergeWithParent, hgm, hmp]
    | some p => rw [merge_eq hgm hmp]; simp [Heap.size]

theorem merge_alive_of_ne {h : Heap} {m x : Nat} (hx : x ∈ h.alive) (hxm : x ≠ m) :
    x ∈ (h.mergeWithParent m).alive := by
  cases hgm : h.get m with
  | none => simp only [Heap.mergeWithParent, hgm]; exact hx
  | some mo =>
    cases hmp : mo.parent with
    | none => simp only [Heap.mergeWithParent, hgm, hmp]; exact hx
    | some p => rw [merge_alive hgm hmp]; exact (List.mem_erase_of_ne hxm).2 hx

theorem mergeWithParent_wf (h : Heap) (m : Nat) (hwf : WF h) (hm : m ∈ h.alive)
    (hp : (h.get m).bind (·.parent) ≠ none) : WF (h.mergeWithParent m) := by
  obtain ⟨mo, hgm⟩ := hwf.alive_get m hm
  obtain ⟨p, hmp⟩ : ∃ p, mo.parent = some p := by
    rw [hgm] at hp; exact Option.ne_none_iff_exists'.mp hp
  exact .of_links (hwf.links.contract hm hgm hmp (merge_alive hgm hmp) (merge_size h m) (mergeF m p mo)
    (merge_get hgm hmp) (mergeF_parent m p mo) (mergeF_kids m p mo))

/-- every merge of the list addresses an alive object with a parent, at its turn -/
inductive Legal : Heap → List Nat → Prop
  | nil (h : Heap) : Legal h []
  | cons {h : Heap} {m : Nat} {ms : List Nat} : m ∈ h.alive → (h.get m).bind (·.parent) ≠ none →
      Legal (h.mergeWithParent m) ms → Legal h (m :: ms)

/-- the form in which a concrete merge list is checked -/
theorem legal_cons {h : Heap} {m : Nat} {ms : List Nat} :
    Legal h (m :: ms) ↔ m ∈ h.alive ∧ (h.get m).bind (·.parent) ≠ none ∧ Legal (h.mergeWithParent m) ms :=
  ⟨fun | .cons a b c => ⟨a, b, c⟩, fun ⟨a, b, c⟩ => .cons a b c⟩

theorem foldl_merge_wf {h : Heap} {ms : List Nat} (hwf : WF h) (hl : Legal h ms) :
    WF (ms.foldl Heap.mergeWithParent h) := by
  induction hl with
  | nil h => exact hwf
  | cons hm hp _ ih => exact ih (mergeWithParent_wf _ _ hwf hm hp)

/-- what `finishPrune` does to an object -/
def finishF (h : Heap) (o : Obj) : Obj :=
  if h.alive.contains o.id then
    let o' := resetCache o
    if o'.parent.isNone then { o' with lvl := some 0 } else o'
  else o

theorem finishF_keeps (h : Heap) (o : Obj) : (finishF h o).id = o.id ∧ (finishF h o).parent = o.parent ∧
    (finishF h o).kids = o.kids ∧ (finishF h o).own = o.own := by
  unfold finishF resetCache
  split
  · dsimp only
    split <;> exact ⟨rfl, rfl, rfl, rfl⟩
  · exact ⟨rfl, rfl, rfl, rfl⟩

theorem finishF_id (h : Heap) (o : Obj) : (finishF h o).id = o.id := (finishF_keeps h o).1
theorem finishF_parent (h : Heap) (o : Obj) : (finishF h o).parent = o.parent := (finishF_keeps h o).2.1
theorem finishF_kids (h : Heap) (o : Obj) : (finishF h o).kids = o.kids := (finishF_keeps h o).2.2.1
theorem finishF_own (h : Heap) (o : Obj) : (finishF h o).own = o.own := (finishF_keeps h o).2.2.2

theorem finishF_alive (h : Heap) (o : Obj) (ha : o.id ∈ h.alive) :
    finishF h o = { resetCache o with lvl := if o.parent = none then some 0 else none } := by
  unfold finishF
  rw [if_pos (List.contains_iff_mem.2 ha)]
  cases hp : o.parent <;> simp [resetCache, hp]

theorem finishPrune_get (h : Heap) (x : Nat) : h.finishPrune.get x = (h.get x).map (finishF h) := by
  unfold Heap.finishPrune Heap.get
  exact List.find?_key_map Obj.id (finishF h) (finishF_id h) h.objs x

theorem finishPrune_same (h : Heap) : SameLinks h h.finishPrune := by
  refine ⟨rfl, by simp [Heap.finishPrune, Heap.size], fun x => ?_⟩
  rw [finishPrune_get]
  cases h.get x <;> simp [finishF_parent, finishF_kids]

theorem finishPrune_sound (h : Heap) : Sound h.finishPrune := by
  refine sound_of_seeded fun x hx o' hg' => ?_
  obtain ⟨o, hg, rfl⟩ := Option.map_eq_some_iff.1 ((finishPrune_get h x).symm.trans hg')
  rw [finishF_alive h o (get_id hg ▸ hx)]
  exact ⟨rfl, rfl, rfl, rfl⟩

theorem prune_sound (h : Heap) (ms : List Nat) (hwf : WF h) (hms : Legal h ms) :
    WF (h.prune ms) ∧ Sound (h.prune ms) :=
  ⟨(foldl_merge_wf hwf hms).same (finishPrune_same _), finishPrune_sound _⟩

def LegalOp (h : Heap) : COp → Prop
  | .qLevel i => i ∈ h.alive
  | .qAnc i => i ∈ h.alive
  | .qDesc i => i ∈ h.alive
  | .qNewick i => i ∈ h.alive
  | .prune ms => Legal h ms

def LegalHist : Heap → List COp → Prop
  | _, [] => True
  | h, op :: ops => LegalOp h op ∧ LegalHist (h.stepC op).1 ops

theorem stepC_sound (h : Heap) (op : COp) (hwf : WF h) (hs : Sound h) (hl : LegalOp h op) :
    (h.stepC op).2 = h.specObs op ∧ WF (h.stepC op).1 ∧ Sound (h.stepC op).1 := by
  cases op with
  | qLevel i =>
    obtain ⟨o, hg⟩ := hwf.alive_get i hl
    obtain ⟨h1, f⟩ := level_fills hwf hs hl
    exact ⟨by simp [Heap.stepC, Heap.specObs, hg, h1], (f.done hwf).1, (f.done hwf).2.1⟩
  | qAnc i =>
    obtain ⟨o, hg⟩ := hwf.alive_get i hl
    obtain ⟨h1, f⟩ := ancestor_fills hwf hs hl
    exact ⟨by simp [Heap.stepC, Heap.specObs, hg, h1], (f.done hwf).1, (f.done hwf).2.1⟩
  | qDesc i =>
    obtain ⟨o, hg⟩ := hwf.alive_get i hl
    obtain ⟨h1, f⟩ := descendants_fills hwf hs hl
    exact ⟨by simp [Heap.stepC, Heap.specObs, hg, h1], (f.done hwf).1, (f.done hwf).2.1⟩
  | qNewick i =>
    obtain ⟨h1, f⟩ := newick_fills hwf hs hl
    exact ⟨by simp [Heap.stepC, Heap.specObs, h1], (f.done hwf).1, (f.done hwf).2.1⟩
  | prune ms =>
    obtain ⟨h2, h3⟩ := prune_sound h ms hwf hl
    exact ⟨rfl, h2, h3⟩

theorem history_trace (h : Heap) (ops : List COp) (hwf : WF h) (hs : Sound h) (hlegal : LegalHist h ops) :
    (∀ pr ∈ Heap.runHistory Heap.stepC h ops, pr.1 = pr.2) ∧
      WF (ops.foldl (fun a op => (a.stepC op).1) h) ∧ Sound (ops.foldl (fun a op => (a.stepC op).1) h) := by
  induction ops generalizing h with
  -- a bare `nofun` would first split the pair of answers into its cases
  | nil => exact ⟨fun _ => nofun, hwf, hs⟩
  | cons op ops ih =>
    obtain ⟨h1, h2, h3⟩ := stepC_sound h op hwf hs hlegal.1
    obtain ⟨h4, h5⟩ := ih _ h2 h3 hlegal.2
    exact ⟨List.forall_mem_cons.2 ⟨h1, h4⟩, h5⟩

/-- along every legal history from a well-formed heap with sound caches, every observation of
    the repaired code equals the observation computed from the live links at that moment -/
theorem history_sound (h : Heap) (ops : List COp) (hwf : WF h) (hs : Sound h) (hlegal : LegalHist h ops) :
    ∀ pr ∈ Heap.runHistory Heap.stepC h ops, pr.1 = pr.2 := (history_trace h ops hwf hs hlegal).1

theorem history_invariant (h : Heap) (ops : List COp) (hwf : WF h) (hs : Sound h) (hlegal : LegalHist h ops) :
    WF (ops.foldl (fun a op => (a.stepC op).1) h) ∧ Sound (ops.foldl (fun a op => (a.stepC op).1) h) :=
  (history_trace h ops hwf hs hlegal).2

/-! On `h0` the code before the repair answers from stale caches (`C14_old_stale_*` in ADProps/C14.lean); the repaired
code does not (`repaired_witness`), and `h0` with that history meets the hypotheses of `history_sound`. -/

def h0 : Heap := { objs := [ { id := 0, kids := [1, 6], lvl := some 0 }, { id := 1, parent := some 0, kids := [2, 3] }, { id := 6, parent := some 0 }, { id := 2, parent := some 1, kids := [4, 5] }, { id := 3, parent := some 1 }, { id := 4, parent := some 2 }, { id := 5, parent := some 2 } ], alive := [0,1,2,3,4,5,6] }

theorem repaired_witness : ∀ pr ∈ Heap.runHistory Heap.stepC h0 [.qLevel 4, .qDesc 0, .qNewick 0, .prune [2, 3], .qLevel 4, .qDesc 0, .qNewick 0, .qAnc 5], pr.1 = pr.2 := by decide +kernel

theorem h0_wf : WF h0 := .of_links (.of_rank id (by decide +kernel))

theorem h0_sound : Sound h0 := sound_of_seeded (by decide +kernel)

example : WF h0 ∧ Sound h0 := ⟨h0_wf, h0_sound⟩

theorem h0_legal :
    LegalHist h0 [.qLevel 4, .qDesc 0, .qNewick 0, .prune [2, 3], .qLevel 4, .qDesc 0, .qNewick 0, .qAnc 5] := by
  simp only [LegalHist, LegalOp, legal_cons, Legal.nil]
  decide +kernel

example : LegalHist h0 [.qLevel 4, .qDesc 0, .qNewick 0, .prune [2, 3], .qLevel 4, .qDesc 0, .qNewick 0, .qAnc 5] :=
  h0_legal
end P17
