import ADModel.Eq
import ADModel.Identify
import ADProofs.ListLemmas
/-!
# ADProofs.EqProofs — dendrogram equality (C20) and file-format identification (C09)

`canon_eq_iff_same_partition`: `canon l = canon m` iff the two label maps label the same pixels and group them
identically (`SamePartition`).  `canon` renames every label to its rank among the labelled first occurrences
(`canon_eq`); label maps with the same partition have the same first occurrences (`firstOcc_congr`), and the renaming is
injective on the labels that occur.

`ADModel.Identify`: FITS / HDF5 extensions and signatures are disjoint, so at most one handler recognises a file and
handler order is irrelevant (`identify_unique`).
-/

namespace P14
open DView Identify

theorem compat_symm (x y : Int) : compat x y = compat y x := by
  rw [compat, compat, Bool.or_comm (x == 0), BEq.comm (a := x) (b := y)]

theorem compat_iff (x y : Int) : compat x y = true ↔ (x = 0 ∨ y = 0 ∨ x = y) := by
  simp [compat, or_assoc]

theorem sameData_refl (a : DView) : sameData a a = true := by simp [sameData]
theorem sameParams_refl (a : DView) : sameParams a a = true := by simp [sameParams, compat]

theorem sameData_symm (a b : DView) : sameData a b = sameData b a := by
  rw [sameData, sameData, BEq.comm (a := a.shape), BEq.comm (a := a.data)]

theorem sameParams_symm (a b : DView) : sameParams a b = sameParams b a := by
  rw [sameParams, sameParams, BEq.comm (a := a.minv.1 * _), compat_symm a.mind, compat_symm a.minn]

theorem eqSpec_iff (a b : DView) : DView.eqSpec a b = true ↔
    a.shape = b.shape ∧ a.data = b.data ∧ a.minv.1 * (b.minv.2 : Int) = b.minv.1 * (a.minv.2 : Int) ∧
    (a.mind = 0 ∨ b.mind = 0 ∨ a.mind = b.mind) ∧ (a.minn = 0 ∨ b.minn = 0 ∨ a.minn = b.minn) ∧
    DView.canon a.lmap = DView.canon b.lmap := by
  simp only [eqSpec, sameData, sameParams, Bool.and_eq_true, beq_iff_eq, compat_iff, and_assoc]

theorem eqD_iff (a b : DView) : DView.eqD a b = true ↔
    a.shape = b.shape ∧ a.data = b.data ∧ a.minv.1 * (b.minv.2 : Int) = b.minv.1 * (a.minv.2 : Int) ∧
    (a.mind = 0 ∨ b.mind = 0 ∨ a.mind = b.mind) ∧ (a.minn = 0 ∨ b.minn = 0 ∨ a.minn = b.minn) := by
  simp only [eqD, sameData, sameParams, Bool.and_eq_true, beq_iff_eq, compat_iff, and_assoc, and_true]

theorem eqSpec_implies_eqD (a b : DView) : DView.eqSpec a b = true → DView.eqD a b = true := by
  rw [eqSpec_iff, eqD_iff]
  rintro ⟨h1, h2, h3, h4, h5, _⟩; exact ⟨h1, h2, h3, h4, h5⟩

def SamePartition (l m : List (Option Nat)) : Prop :=
  l.length = m.length ∧ ∀ i j, i < l.length → j < l.length →
    ((l.getD i none = none ↔ m.getD i none = none) ∧
     ((l.getD i none = l.getD j none) ↔ (m.getD i none = m.getD j none)))

theorem SamePartition.refl (l) : SamePartition l l := ⟨rfl, fun _ _ _ _ => ⟨Iff.rfl, Iff.rfl⟩⟩
theorem SamePartition.symm {l m} (h : SamePartition l m) : SamePartition m l :=
  ⟨h.1.symm, fun i j hi hj => ⟨(h.2 i j (h.1 ▸ hi) (h.1 ▸ hj)).1.symm, (h.2 i j (h.1 ▸ hi) (h.1 ▸ hj)).2.symm⟩⟩
theorem SamePartition.trans {l m n} (h : SamePartition l m) (h' : SamePartition m n) : SamePartition l n :=
  ⟨h.1.trans h'.1, fun i j hi hj =>
    ⟨(h.2 i j hi hj).1.trans (h'.2 i j (h.1 ▸ hi) (h.1 ▸ hj)).1,
     (h.2 i j hi hj).2.trans (h'.2 i j (h.1 ▸ hi) (h.1 ▸ hj)).2⟩⟩

theorem contains_take_iff (l : List (Option Nat)) (i : Nat) (hi : i < l.length) (x : Option Nat) :
    (l.take i).contains x = true ↔ ∃ j, j < i ∧ l.getD j none = x := by
  rw [List.contains_iff_mem, List.mem_take_iff_getElem]
  constructor
  · rintro ⟨j, hj, e⟩; exact ⟨j, by omega, (List.getElem_eq_getD none).symm.trans e⟩
  · rintro ⟨j, hj, e⟩; exact ⟨j, by omega, (List.getElem_eq_getD none).trans e⟩

theorem firstOcc_congr {l m} (h : SamePartition l m) : firstOcc l = firstOcc m := by
  unfold firstOcc
  rw [← h.1]
  apply List.filter_congr
  intro i hi
  have hi : i < l.length := List.mem_range.mp hi
  congr 1
  rw [Bool.eq_iff_iff, contains_take_iff l i hi, contains_take_iff m i (h.1 ▸ hi)]
  exact exists_congr fun j => and_congr_right fun hj => (h.2 j i (Nat.lt_trans hj hi) hi).2

def firsts (l : List (Option Nat)) : List Nat := (firstOcc l).filter fun i => (l.getD i none).isSome
/-- the list in which `canon` looks a label's rank up -/
def keys (l : List (Option Nat)) : List (Option Nat) := (firsts l).map fun i => l.getD i none
def ren (l : List (Option Nat)) : Option Nat → Option Nat
  | none => none
  | some v => some ((keys l).idxOf (some v))

theorem canon_eq (l) : canon l = l.map (ren l) := by
  unfold canon; apply List.map_congr_left; intro x _; cases x <;> rfl

theorem getD_canon (l : List (Option Nat)) (i : Nat) : (canon l).getD i none = ren l (l.getD i none) := by
  rw [canon_eq]
  simp only [List.getD_eq_getElem?_getD, List.getElem?_map]
  cases l[i]? <;> rfl

theorem mem_firsts {l : List (Option Nat)} {i : Nat} : i ∈ firsts l ↔
    i < l.length ∧ (l.take i).contains (l.getD i none) = false ∧ (l.getD i none).isSome = true := by
  simp only [firsts, firstOcc, List.mem_filter, List.mem_range, Bool.not_eq_true', and_assoc]

theorem firsts_congr {l m} (h : SamePartition l m) : firsts l = firsts m := by
  unfold firsts
  rw [← firstOcc_congr h]
  apply List.filter_congr
  intro i hi
  have hi : i < l.length := List.mem_range.mp (List.mem_filter.mp hi).1
  rw [Bool.eq_iff_iff, Option.isSome_iff_ne_none, Option.isSome_iff_ne_none]
  exact not_congr (h.2 i i hi hi).1

theorem idxOf_congr (l m : List (Option Nat)) (a b : Option Nat) (ps : List Nat)
    (h : ∀ p ∈ ps, (l.getD p none = a ↔ m.getD p none = b)) :
    (ps.map fun i => l.getD i none).idxOf a = (ps.map fun i => m.getD i none).idxOf b := by
  induction ps with
  | nil => rfl
  | cons p ps ih =>
    have hb : (l.getD p none == a) = (m.getD p none == b) := by
      rw [Bool.eq_iff_iff, beq_iff_eq, beq_iff_eq]; exact h p List.mem_cons_self
    rw [List.map_cons, List.map_cons, List.idxOf_cons, List.idxOf_cons, hb,
      ih fun q hq => h q (List.mem_cons_of_mem _ hq)]

theorem canon_congr {l m} (h : SamePartition l m) : canon l = canon m := by
  rw [canon_eq, canon_eq]
  apply List.ext_getElem (by simp [h.1])
  intro i hi _
  have hi : i < l.length := by simpa using hi
  rw [List.getElem_map, List.getElem_map, List.getElem_eq_getD none, List.getElem_eq_getD none]
  have hn := (h.2 i i hi hi).1
  cases e1 : l.getD i none with
  | none => rw [hn.1 e1]; rfl
  | some v =>
    cases e2 : m.getD i none with
    | none => rw [hn.2 e2] at e1; cases e1
    | some w =>
      -- both labels are renamed to their position among the first occurrences, which `h` aligns
      simp only [ren, keys]
      rw [← firsts_congr h]
      congr 1
      apply idxOf_congr
      intro p hp
      rw [← e1, ← e2]
      exact (h.2 p i (mem_firsts.mp hp).1 hi).2

/-- the first occurrence `l.idxOf (some v)` of a label is a labelled first-occurrence position -/
theorem mem_keys {l : List (Option Nat)} {i v} (hi : i < l.length) (e : l.getD i none = some v) :
    some v ∈ keys l := by
  have hp : l.idxOf (some v) < l.length := List.idxOf_lt_length_of_mem (e ▸ List.getD_mem hi none)
  have ep : l.getD (l.idxOf (some v)) none = some v :=
    (List.getElem_eq_getD none).symm.trans (List.getElem_idxOf hp)
  refine List.mem_map.mpr ⟨_, mem_firsts.mpr ⟨hp, ?_, by rw [ep]; rfl⟩, ep⟩
  rw [← Bool.not_eq_true, contains_take_iff l _ hp, ep]
  rintro ⟨j, hj, ej⟩
  have := List.not_of_lt_findIdx (p := (· == some v)) hj
  rw [List.getElem_eq_getD none, ej] at this
  simp at this

theorem canon_same_partition (l : List (Option Nat)) : SamePartition l (canon l) := by
  refine ⟨by simp [canon], fun i j hi hj => ?_⟩
  rw [getD_canon, getD_canon]
  refine ⟨by cases l.getD i none <;> simp [ren], congrArg _, fun h => ?_⟩
  -- `ren l` is injective on the labels of `l`: they are keys, and `idxOf` is injective on members
  cases e1 : l.getD i none <;> cases e2 : l.getD j none <;> rw [e1, e2] at h
  · cases h
  · cases h
  · rw [List.eq_of_idxOf_eq (mem_keys hi e1) (Option.some.inj h)]

theorem canon_eq_iff_same_partition (l m : List (Option Nat)) :
    DView.canon l = DView.canon m ↔ SamePartition l m := by
  constructor
  · intro h
    have h1 := canon_same_partition l
    rw [h] at h1
    exact h1.trans (canon_same_partition m).symm
  · exact canon_congr

theorem canon_idempotent (l : List (Option Nat)) : canon (canon l) = canon l :=
  canon_congr (canon_same_partition l).symm

/-- `eqSpec` implies what the code would compute with `other.index_map` in the second
    fingerprint: equal canonical forms have equal first-occurrence fingerprints. -/
theorem eqSpec_implies_eqIntended (a b : DView) :
    DView.eqSpec a b = true → DView.eqIntended a b = true := by
  intro h
  have hc : canon a.lmap = canon b.lmap := ((eqSpec_iff a b).1 h).2.2.2.2.2
  have hd := eqSpec_implies_eqD a b h
  simp only [eqD, eqIntended, Bool.and_eq_true, beq_iff_eq] at hd ⊢
  exact ⟨hd.1, firstOcc_congr ((canon_eq_iff_same_partition _ _).1 hc)⟩

theorem endsWith_iff (s suf : List Char) : endsWith s suf = true ↔ suf <:+ s := by
  simp only [endsWith, Bool.and_eq_true, decide_eq_true_iff, beq_iff_eq]
  exact ⟨fun h => List.suffix_iff_eq_drop.mpr h.2.symm,
    fun h => ⟨h.length_le, (List.suffix_iff_eq_drop.mp h).symm⟩⟩

theorem exts_disjoint : ∀ a ∈ fitsExts, ∀ b ∈ hdf5Exts, ¬ a <:+ b ∧ ¬ b <:+ a := by decide +kernel

/-- of two endings of one name, one ends with the other -/
theorem fits_hdf5_ext_disjoint (s : List Char) :
    ¬ (Identify.fitsExts.any (Identify.endsWith s) = true ∧ Identify.hdf5Exts.any (Identify.endsWith s) = true) := by
  simp only [List.any_eq_true, endsWith_iff]
  rintro ⟨⟨a, ha, has⟩, b, hb, hbs⟩
  exact (List.suffix_or_suffix_of_suffix has hbs).elim (exts_disjoint a ha b hb).1 (exts_disjoint a ha b hb).2

/-- first byte 0x53 vs 0x89 -/
theorem sig_disjoint (h : List Nat) : ¬ (h.take 30 = Identify.fitsSig ∧ h.take 8 = Identify.hdf5Sig) := by
  rintro ⟨h1, h2⟩
  cases h with
  | nil => simp [hdf5Sig] at h2
  | cons x t =>
    simp only [List.take_succ_cons, fitsSig, hdf5Sig, List.cons_append, List.cons.injEq] at h1 h2
    omega

theorem identify_unique (name : List Char) (read : Bool) (head : Option (List Nat)) :
    ¬ (Identify.isFits name read head = true ∧ Identify.isHdf5 name read head = true) := by
  rintro ⟨h1, h2⟩
  -- only a read with the first bytes of the file at hand looks at the signatures
  cases read <;> cases head <;> simp only [isFits, isHdf5, beq_iff_eq] at h1 h2
  case true.some => exact sig_disjoint _ ⟨h1, h2⟩
  all_goals exact fits_hdf5_ext_disjoint _ ⟨h1, h2⟩

theorem identify_cases (name : List Char) (read : Bool) (head : Option (List Nat)) :
    (identify name read head = some .fits ↔ isFits name read head = true) ∧
    (identify name read head = some .hdf5 ↔ isHdf5 name read head = true) ∧
    (identify name read head = none ↔ (isFits name read head = false ∧ isHdf5 name read head = false)) := by
  unfold identify
  cases hf : isFits name read head <;> cases hh : isHdf5 name read head
  · simp
  · simp
  · simp
  · exact absurd ⟨hf, hh⟩ (identify_unique name read head)

theorem lower_case_insensitive :
    Identify.identify "X.FITS".toList false none = some .fits ∧
    Identify.identify ".H5".toList false none = some .hdf5 ∧
    Identify.identify "a.Fit.Gz".toList false none = some .fits := by decide +kernel

end P14
