import ADProofs.Run
/-! Connectivity inside a pixel set (`Conn`, `ConnSet`, the star-join lemma), and what the pixel loop does to it
(C03): the parentless structures stay internally connected and mutually non-adjacent (`Closed`). -/

/-- `Conn nb S a b`: `b` reachable from `a` by steps along `nb` whose targets lie in `S` -/
inductive Conn (nb : Nat → List Nat) (S : Nat → Prop) : Nat → Nat → Prop
  | refl (a) : Conn nb S a a
  | tail {a b c} : Conn nb S a b → c ∈ nb b → S c → Conn nb S a c

namespace Conn
variable {nb : Nat → List Nat} {S T : Nat → Prop}

theorem trans {a b c} (h1 : Conn nb S a b) (h2 : Conn nb S b c) : Conn nb S a c := by
  induction h2 with
  | refl => exact h1
  | tail _ hn hs ih => exact .tail ih hn hs

theorem mono (h : ∀ x, S x → T x) {a b} (hc : Conn nb S a b) : Conn nb T a b := by
  induction hc with
  | refl => exact .refl _
  | tail _ hn hs ih => exact .tail ih hn (h _ hs)

theorem single {a b} (hn : b ∈ nb a) (hs : S b) : Conn nb S a b := .tail (.refl a) hn hs

/-- induction along a path with the start fixed: for an `S` that mentions the start, which `induction` cannot
generalise (it is an index of `Conn`) -/
theorem induct_from {a : Nat} {P : Nat → Prop} (h0 : P a)
    (hs : ∀ b c, P b → c ∈ nb b → S c → P c) : ∀ b, Conn nb S a b → P b := by
  intro b h
  induction h with
  | refl => exact h0
  | tail _ hn hS ih => exact hs _ _ ih hn hS

theorem mem {a b} (ha : S a) (h : Conn nb S a b) : S b := by
  cases h with
  | refl => exact ha
  | tail _ _ hs => exact hs

/-- `ha`: the reversed path ends in `a`, and every target has to lie in `S` -/
theorem symm (hsym : ∀ x y, y ∈ nb x → x ∈ nb y) {a b} (ha : S a) (h : Conn nb S a b) : Conn nb S b a := by
  induction h with
  | refl => exact .refl _
  | tail hab hn _ ih => exact trans (single (hsym _ _ hn) (hab.mem ha)) ih
end Conn

def ConnSet (nb : Nat → List Nat) (S : Nat → Prop) : Prop := ∀ a b, S a → S b → Conn nb S a b

theorem connSet_congr {nb : Nat → List Nat} {S T : Nat → Prop} (h : ∀ x, S x ↔ T x) (hs : ConnSet nb S) : ConnSet nb T := by
  intro a b ha hb
  exact (hs a b ((h a).mpr ha) ((h b).mpr hb)).mono (fun x hx => (h x).mp hx)

theorem star_join {ι : Type} (nb : Nat → List Nat) (hsym : ∀ x y, y ∈ nb x → x ∈ nb y)
    (p : Nat) (parts : List ι) (F : ι → Nat → Prop)
    (hconn : ∀ i ∈ parts, ConnSet nb (F i))
    (htouch : ∀ i ∈ parts, ∃ q, F i q ∧ q ∈ nb p) :
    ConnSet nb (fun x => x = p ∨ ∃ i ∈ parts, F i x) := by
  -- every point of the union reaches `p` inside the union
  have toP : ∀ x, (x = p ∨ ∃ i ∈ parts, F i x) → Conn nb (fun x => x = p ∨ ∃ i ∈ parts, F i x) x p := by
    rintro x (rfl | ⟨i, hi, hx⟩)
    · exact .refl _
    · obtain ⟨q, hq, hqp⟩ := htouch i hi
      exact .tail ((hconn i hi x q hx hq).mono fun y hy => .inr ⟨i, hi, hy⟩) (hsym _ _ hqp) (.inl rfl)
  exact fun a b ha hb => (toP a ha).trans ((toP b hb).symm hsym hb)

open Tree

def PixConn (E : Env) (t : Tree) : Prop := ConnSet E.nbrs (fun x => x ∈ t.pixels)

theorem joinAdj_conn (E : Env) (hsym : ∀ x y, y ∈ E.nbrs x → x ∈ E.nbrs y) (p : Nat) (adj : List Tree)
    (hconn : ∀ t ∈ adj, PixConn E t) (htouch : ∀ t ∈ adj, touches E p t = true) :
    PixConn E (joinAdj E p adj) := by
  refine connSet_congr (fun x => ?_) (star_join E.nbrs hsym p adj (fun t x => x ∈ t.pixels) hconn
    fun t ht => (touches_iff E p t).mp (htouch t ht))
  rw [(joinAdj_pixels E p adj).mem_iff, List.mem_cons, mem_pixelsL]

theorem step_roots_conn (E : Env) (hsym : ∀ x y, y ∈ E.nbrs x → x ∈ E.nbrs y) (roots : List Tree) (p : Nat)
    (h : ∀ t ∈ roots, PixConn E t) : ∀ t ∈ step E roots p, PixConn E t := by
  intro t ht
  rcases mem_step.mp ht with ht | rfl
  · exact h t ht.1
  · exact joinAdj_conn E hsym p _ (fun t ht => h t (mem_adjacent.mp ht).1) fun t ht => (mem_adjacent.mp ht).2

def Closed (E : Env) (roots : List Tree) : Prop :=
  ∀ t ∈ roots, ∀ t' ∈ roots, t ≠ t' → ∀ a ∈ t.pixels, ∀ b ∈ t'.pixels, b ∉ E.nbrs a

theorem step_closed (E : Env) (hsym : ∀ x y, y ∈ E.nbrs x → x ∈ E.nbrs y) (roots : List Tree) (p : Nat)
    (h : Closed E roots) : Closed E (step E roots p) := by
  have key : ∀ t ∈ roots, touches E p t = false → ∀ a ∈ t.pixels,
      ∀ b ∈ (joinAdj E p (sortById (roots.filter (touches E p)))).pixels, b ∉ E.nbrs a ∧ a ∉ E.nbrs b := by
    intro t htr hnt a ha b hb
    rw [(joinAdj_pixels E p _).mem_iff] at hb
    rcases List.mem_cons.mp hb with rfl | hb
    · have hno : ¬ ∃ q, q ∈ t.pixels ∧ q ∈ E.nbrs b := fun hq =>
        Bool.false_ne_true (hnt.symm.trans ((touches_iff E b t).mpr hq))
      exact ⟨fun hba => hno ⟨a, ha, hsym _ _ hba⟩, fun hab => hno ⟨a, ha, hab⟩⟩
    · obtain ⟨u, hu, hbu⟩ := mem_pixelsL.mp hb
      have hu' := mem_adjacent.mp hu
      have hne : t ≠ u := fun e => Bool.false_ne_true (hnt.symm.trans (e ▸ hu'.2))
      exact ⟨h t htr u hu'.1 hne a ha b hbu, h u hu'.1 t htr (Ne.symm hne) b hbu a ha⟩
  intro t ht t' ht' hne a ha b hb
  rcases mem_step.mp ht with ht | rfl <;> rcases mem_step.mp ht' with ht' | rfl
  · exact h t ht.1 t' ht'.1 hne a ha b hb
  · exact (key t ht.1 ht.2 a ha b hb).1
  · exact (key t' ht'.1 ht'.2 b hb a ha).2
  · exact absurd rfl hne

theorem run_closed (E : Env) (hsym : ∀ x y, y ∈ E.nbrs x → x ∈ E.nbrs y) (order : List Nat) :
    Closed E (run E order) :=
  run_induction E (Closed E) (fun _ ht => nomatch ht) (step_closed E hsym) order
