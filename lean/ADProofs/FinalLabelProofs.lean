import ADModel.LabelMap
import ADProofs.LabelMapProofs
import ADProofs.AssignedProofs
import ADProofs.ReachProofs
/-!
# ADProofs.FinalLabelProofs — the label map after `_make_trunk` and the re-numbering (namespace `P40`)

`ADModel.LabelMap.runL` models `index_map` during the pixel loop.  After the loop
`Dendrogram.compute` (dendrogram.py:331-345) still writes to it:

* (a) `_make_trunk` : every parentless leaf that fails the value-less criteria is removed and
  `leaf._fill_footprint(index_map, -1)` resets its pixels                      → `clearFootprint`
  (the literal recursion of `Structure._fill_footprint`, which gives the children `level + 1`, is
  `fillRec`; the two agree on leaves, and only leaves are ever dropped: `fillRec_leaf`,
  `finalLmapRec_eq`);
* (b) `for idx, s in enumerate(sorted(self, key=smallest_index)): s.idx = idx;
  s._fill_footprint(index_map, idx, recursive=False)`                          → `fillOwn`, `fillEnum`
* (c) the padded border is cut off: the border cells are never processed, they carry `none`
  before and after (`finalLmap_unprocessed`), so cutting them off is a restriction of the domain.

`finalLmap E order` is the label map after (a) and (b).  For an order without repetition it is
`labelOf (compute E order)` (`finalLmap_eq`): over any arrangement of the structures of a forest
the enumeration loop leaves at every owned pixel the position of its owner (`fillEnum_eq`), which
is how re-labelling renames `labelOf` (`labelOf_mapIdsL`); a pixel nobody owns any more was
cleared in (a) or never labelled.
-/
open Tree

/-- `t._fill_footprint(index_map, -1)` as it is *used* (on leaves; `fillRec` is the literal recursion) -/
def clearFootprint (lmap : Nat → Option Nat) (t : Tree) : Nat → Option Nat :=
  fun q => if t.pixels.contains q then none else lmap q

/-- `t._fill_footprint(index_map, idx, recursive=False)` : `index_map[t.indices(subtree=False)] = idx` -/
def fillOwn (lmap : Nat → Option Nat) (t : Tree) (idx : Nat) : Nat → Option Nat :=
  fun q => if t.own.contains q then some idx else lmap q

/-- `for idx, s in enumerate(S, start): s._fill_footprint(index_map, idx, recursive=False)` -/
def fillEnum (lmap : Nat → Option Nat) : List Tree → Nat → (Nat → Option Nat)
  | [], _ => lmap
  | s :: rest, idx => fillEnum (fillOwn lmap s idx) rest (idx + 1)

/-- the label map when `Dendrogram.compute` returns, before the border is cut off -/
def finalLmap (E : Env) (order : List Nat) : Nat → Option Nat :=
  let s := runL E order
  fillEnum ((droppedOrphans E s.roots).foldl clearFootprint s.lmap)
    (sortBySmallest (nodes (makeTrunk E s.roots))) 0

/-- a level written into `index_map` : negative = unassigned -/
def encLevel (l : Int) : Option Nat := if l < 0 then none else some l.toNat

mutual
/-- `Structure._fill_footprint(array, level)` literally (`recursive=True`): the children first, with
`level + 1`, then the own pixels -/
def fillRec (lmap : Nat → Option Nat) : Tree → Int → (Nat → Option Nat)
  | node _ o ks, level => fun q => if o.contains q then encLevel level else fillRecL lmap ks (level + 1) q
def fillRecL (lmap : Nat → Option Nat) : List Tree → Int → (Nat → Option Nat)
  | [], _ => lmap
  | t :: ts, level => fillRecL (fillRec lmap t level) ts level
end

/-- `finalLmap` with the literal `_fill_footprint(index_map, -1)` in `_make_trunk` -/
def finalLmapRec (E : Env) (order : List Nat) : Nat → Option Nat :=
  let s := runL E order
  fillEnum ((droppedOrphans E s.roots).foldl (fun lm t => fillRec lm t (-1)) s.lmap)
    (sortBySmallest (nodes (makeTrunk E s.roots))) 0

namespace P40

theorem foldl_clear (D : List Tree) (lm : Nat → Option Nat) (q : Nat) :
    (D.foldl clearFootprint lm) q =
      if D.any (fun d => d.pixels.contains q) then none else lm q :=
  List.foldl_write (fun (d : Tree) q => d.pixels.contains q) none D lm q

theorem fillRec_leaf (lm : Nat → Option Nat) (t : Tree) (h : t.kids = []) :
    fillRec lm t (-1) = clearFootprint lm t := by
  cases t with
  | node i o ks =>
    cases (h : ks = [])
    funext q
    simp [fillRec, fillRecL, clearFootprint, pixels, pixelsL, encLevel]

theorem foldl_fillRec_leaves (D : List Tree) (hD : ∀ d ∈ D, d.kids = []) (lm : Nat → Option Nat) :
    D.foldl (fun lm t => fillRec lm t (-1)) lm = D.foldl clearFootprint lm := by
  induction D generalizing lm with
  | nil => rfl
  | cons d D ih =>
    rw [List.foldl_cons, List.foldl_cons, fillRec_leaf lm d (hD d List.mem_cons_self)]
    exact ih (fun x hx => hD x (List.mem_cons_of_mem _ hx)) _

/-- the recursion of `_fill_footprint` is *not* "everything to `-1`" on a branch: the children get
`level + 1 = 0`.  Harmless, because `_make_trunk` only drops leaves. -/
example : (List.range 3).map (fillRec (fun _ => some 7) (node 0 [0] [node 1 [1] [], node 2 [2] []]) (-1)) =
    [none, some 0, some 0] := by decide +kernel

/-- no hypothesis on `order`: whatever `_make_trunk` drops has no children -/
theorem finalLmapRec_eq (E : Env) (order : List Nat) : finalLmapRec E order = finalLmap E order := by
  unfold finalLmapRec finalLmap
  simp only
  rw [foldl_fillRec_leaves]
  intro d hd
  exact ((P9.dropped_mem_iff E _ d).mp hd).2.1

theorem fillEnum_of_not_mem (S : List Tree) (lm : Nat → Option Nat) (k q : Nat)
    (h : ∀ s ∈ S, q ∉ s.own) : fillEnum lm S k q = lm q := by
  induction S generalizing lm k with
  | nil => rfl
  | cons a S ih =>
    simp only [fillEnum]
    rw [ih _ _ (fun s hs => h s (List.mem_cons_of_mem _ hs))]
    have := h a List.mem_cons_self
    simp [fillOwn, this]

theorem fillEnum_of_mem (S : List Tree) (hid : (S.map Tree.id).Nodup)
    (hown : (S.flatMap Tree.own).Nodup) (lm : Nat → Option Nat) (k q : Nat) (s : Tree) (hs : s ∈ S)
    (hq : q ∈ s.own) : fillEnum lm S k q = some (k + findIdx (fun u => u.id == s.id) S) := by
  induction S generalizing lm k with
  | nil => simp at hs
  | cons a S ih =>
    rw [List.map_cons, List.nodup_cons] at hid
    rw [List.flatMap_cons] at hown
    have hd := List.nodup_append.mp hown
    simp only [fillEnum]
    rcases List.mem_cons.mp hs with e | hs'
    · subst e
      rw [fillEnum_of_not_mem]
      · simp [fillOwn, hq, findIdx]
      · intro u hu hqu
        exact hd.2.2 q hq q (List.mem_flatMap.mpr ⟨u, hu, hqu⟩) rfl
    · have hne : a.id ≠ s.id := fun e => hid.1 (e ▸ List.mem_map_of_mem hs')
      rw [ih hid.2 hd.2.1 _ _ hs']
      simp only [findIdx, beq_iff_eq, hne, if_false]
      congr 1
      omega

theorem fillEnum_eq {f S : List Tree} (hS : S.Perm (nodes f)) (hid : ((preL f).map Tree.id).Nodup)
    (hpx : (pixelsL f).Nodup) (lm : Nat → Option Nat) (k q : Nat) :
    fillEnum lm S k q = ((labelOf f q).map fun i => k + findIdx (fun u => u.id == i) S).or (lm q) := by
  have hown : (S.flatMap Tree.own).Nodup :=
    (hS.flatMap_right _).nodup_iff.mpr (pixelsL_eq_own f ▸ hpx)
  cases hl : labelOf f q with
  | none =>
    rw [P8.labelOf_none_iff, mem_pixelsL_iff] at hl
    exact fillEnum_of_not_mem S lm k q fun s hs hq => hl ⟨s, hS.mem_iff.mp hs, hq⟩
  | some i =>
    obtain ⟨t, ht, rfl, hq⟩ := (P8.labelOf_some_iff hpx).mp hl
    exact fillEnum_of_mem S ((hS.map _).nodup_iff.mpr hid) hown lm k q t (hS.mem_iff.mpr ht) hq

theorem labelOf_mapIdsL (g : Nat → Nat) (f : List Tree) (q : Nat) :
    labelOf (mapIdsL g f) q = (labelOf f q).map g :=
  P8.labelOf_map ((P9.pre_mapIds g).2 f) fun t _ => ⟨P9.id_mapIds g t, by rw [P9.own_mapIds]⟩

theorem finalId_inj (f : List Tree) (hid : ((preL f).map Tree.id).Nodup) {s t : Tree}
    (hs : s ∈ preL f) (ht : t ∈ preL f) (e : finalId f s.id = finalId f t.id) : s = t := by
  have hS := sortBySmallest_perm (preL f)
  -- the positions of the identifiers in the sorted list are `0 … N-1`, each once
  have hpos := map_findIdx_id _ ((hS.map Tree.id).nodup_iff.mpr hid)
  exact List.eq_of_nodup_map (hpos ▸ List.nodup_range) (hS.mem_iff.mpr hs) (hS.mem_iff.mpr ht) e

/-- `finalLmap_eq` for any forest with distinct identifiers where no pixel is owned twice, and its label map -/
theorem fillEnum_trunk (E : Env) {roots : List Tree} (hid : IdsNodup roots) (hpx : (pixelsL roots).Nodup) (q : Nat) :
    fillEnum ((droppedOrphans E roots).foldl clearFootprint (labelOf roots))
        (sortBySmallest (nodes (makeTrunk E roots))) 0 q =
      labelOf (relabel (makeTrunk E roots)) q := by
  rw [fillEnum_eq (f := makeTrunk E roots) (sortBySmallest_perm _) (trunk_ids_nodup _ _ hid)
    (trunk_pixels_nodup _ _ hpx), relabel, labelOf_mapIdsL]
  cases hl : labelOf (makeTrunk E roots) q with
  | some i => simp only [Option.map_some, Option.some_or, Nat.zero_add, finalId]
  | none =>
    -- not owned by a surviving structure: cleared, or never labelled
    rw [Option.map_none, Option.none_or, Option.map_none, foldl_clear]
    split
    · rfl
    · rename_i hd
      rw [P8.labelOf_none_iff] at hl
      rw [P8.labelOf_none_iff, ← (pixelsL_perm (P9.makeTrunk_split E roots)).mem_iff, pixelsL_append,
        List.mem_append]
      exact fun hc => hc.elim hl fun hq' => have ⟨d, hd', hq⟩ := mem_pixelsL.mp hq'
        hd (List.any_eq_true.mpr ⟨d, hd', List.contains_iff_mem.mpr hq⟩)

/-- `C01_final_label_map` -/
theorem finalLmap_eq (E : Env) (order : List Nat) (hnd : order.Nodup) (q : Nat) :
    finalLmap E order q = labelOf (compute E order) q := by
  unfold finalLmap
  rw [P36.runL_eq E order hnd]
  exact fillEnum_trunk E (run_ids_nodup E order hnd) (run_pixels_nodup E order hnd) q

theorem finalLmap_none_iff (E : Env) (order : List Nat) (hnd : order.Nodup) (q : Nat) :
    finalLmap E order q = none ↔
      (q ∉ order ∨ ∃ t ∈ droppedOrphans E (run E order), q ∈ t.pixels) := by
  rw [finalLmap_eq E order hnd, P8.labelOf_none_iff, P9.compute_assigned_iff E order hnd,
    Classical.not_and_iff_not_or_not, Classical.not_not]

theorem finalLmap_unprocessed (E : Env) (order : List Nat) (hnd : order.Nodup) (q : Nat)
    (hq : q ∉ order) : finalLmap E order q = none :=
  (finalLmap_none_iff E order hnd q).mpr (Or.inl hq)

theorem finalLmap_separates (E : Env) (order : List Nat) (hnd : order.Nodup) (s t : Tree)
    (hs : s ∈ preL (compute E order)) (ht : t ∈ preL (compute E order)) (q r : Nat)
    (hq : q ∈ s.own) (hr : r ∈ t.own) (e : finalLmap E order q = finalLmap E order r) : s = t := by
  have hpx := P9.compute_pixels_nodup E order hnd
  rw [finalLmap_eq E order hnd, finalLmap_eq E order hnd, (P8.labelOf_some_iff hpx).mpr ⟨s, hs, rfl, hq⟩,
    (P8.labelOf_some_iff hpx).mpr ⟨t, ht, rfl, hr⟩] at e
  exact List.eq_of_nodup_map (P30.compute_idsNodup E order hnd) hs ht (Option.some.inj e)

/-! The row `3 1 2 1 3` of `P36.rowEnv` (cell 5 is the padding cell) with an extra isolated cell 6 of
value 0, processed last.  A parentless leaf is kept only if it has at least two pixels, so the leaf
`{6}` is dropped by `_make_trunk` and its label is reset.  The three surviving structures are
re-numbered by smallest own pixel: leaf `{0}` ↦ 0, branch `{1}` ↦ 1, leaf `{4,3,2}` ↦ 2. -/

def rowEnv' : Env := { P36.rowEnv with indepOrphan := fun t => decide (2 ≤ t.own.length) }

def rowOrder' : List Nat := [4, 0, 2, 3, 1, 6]

example : (runL rowEnv' rowOrder').roots =
    [node 1 [1] [node 0 [0] [], node 4 [4, 3, 2] []], node 6 [6] []] := by rfl

example : droppedOrphans rowEnv' (runL rowEnv' rowOrder').roots = [node 6 [6] []] := by rfl

example : compute rowEnv' rowOrder' = [node 1 [1] [node 0 [0] [], node 2 [4, 3, 2] []]] := by rfl

example : (List.range 7).map (runL rowEnv' rowOrder').lmap =
    [some 0, some 1, some 4, some 4, some 4, none, some 6] := by decide +kernel

/-- the label map when `compute` returns: cell 6 reset, leaf `{4,3,2}` re-numbered 4 ↦ 2 -/
example : (List.range 7).map (finalLmap rowEnv' rowOrder') =
    [some 0, some 1, some 2, some 2, some 2, none, none] := by decide +kernel

example : (List.range 7).map (finalLmap rowEnv' rowOrder') =
    (List.range 7).map (labelOf (compute rowEnv' rowOrder')) := by decide +kernel

example : (List.range 7).map (finalLmapRec rowEnv' rowOrder') =
    (List.range 7).map (finalLmap rowEnv' rowOrder') := by decide +kernel

/-- with the criteria of `P36.rowEnv` nothing is dropped -/
example : (List.range 6).map (finalLmap P36.rowEnv P36.rowOrder) =
    [some 0, some 1, some 2, some 2, some 2, none] := by decide +kernel

example (q : Nat) : finalLmap rowEnv' rowOrder' q = labelOf (compute rowEnv' rowOrder') q :=
  finalLmap_eq rowEnv' rowOrder' (by decide +kernel) q

end P40
