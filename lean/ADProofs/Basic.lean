import ADModel.Compute
import ADProofs.ListLemmas
/-!
# ADProofs.Basic — trees and forests

The model defines `pre` / `preL` and `pixels` / `pixelsL` by mutual recursion.  Here each is identified with a `flatMap`,
after which membership, permutations and sublists are the `List` facts, and induction on trees is needed in few places.
-/
open Tree

-- Full names `PruneP.id_node` …: they go with the helper lemmas of `namespace PruneP` in `ADProofs.PruneProofs`, but
-- files outside that namespace use them too (`Join`, `LabelMapProofs`, …), so they stand here and the `export` lets
-- them be written without the prefix everywhere.
namespace PruneP
@[simp] theorem id_node (i : Nat) (o : List Nat) (ks : List Tree) : (node i o ks).id = i := rfl
@[simp] theorem own_node (i : Nat) (o : List Nat) (ks : List Tree) : (node i o ks).own = o := rfl
@[simp] theorem kids_node (i : Nat) (o : List Nat) (ks : List Tree) : (node i o ks).kids = ks := rfl
end PruneP
export PruneP (id_node own_node kids_node)

theorem Tree.eta (t : Tree) : node t.id t.own t.kids = t := by cases t; rfl

@[simp] theorem Tree.pixels_node (i o k) : (node i o k).pixels = o ++ pixelsL k := rfl

theorem pixelsL_eq_flatMap (ts : List Tree) : pixelsL ts = ts.flatMap pixels := by
  induction ts with
  | nil => rfl
  | cons t ts ih => rw [pixelsL, ih, List.flatMap_cons]

theorem pixels_eq (t : Tree) : t.pixels = t.own ++ pixelsL t.kids := by
  cases t; rfl

theorem mem_pixelsL {x : Nat} {ts : List Tree} : x ∈ pixelsL ts ↔ ∃ t ∈ ts, x ∈ t.pixels := by
  rw [pixelsL_eq_flatMap]; simp [List.mem_flatMap]

theorem pixelsL_append (a b : List Tree) : pixelsL (a ++ b) = pixelsL a ++ pixelsL b := by
  simp [pixelsL_eq_flatMap]

theorem pixelsL_perm {a b : List Tree} (h : a.Perm b) : (pixelsL a).Perm (pixelsL b) := by
  rw [pixelsL_eq_flatMap, pixelsL_eq_flatMap]; exact h.flatMap_right _

theorem pixelsL_sublist {a b : List Tree} (h : a.Sublist b) : (pixelsL a).Sublist (pixelsL b) := by
  rw [pixelsL_eq_flatMap, pixelsL_eq_flatMap]; exact h.flatMap' _

theorem pixels_sublist_pixelsL {l : List Tree} {t : Tree} (ht : t ∈ l) : t.pixels.Sublist (pixelsL l) := by
  rw [pixelsL_eq_flatMap, List.flatMap_def]
  exact List.sublist_flatten_of_mem (List.mem_map_of_mem ht)

theorem preL_eq_flatMap (ts : List Tree) : preL ts = ts.flatMap pre := by
  induction ts with
  | nil => rfl
  | cons t ts ih => rw [preL, ih, List.flatMap_cons]

theorem preL_cons (t : Tree) (ts : List Tree) : preL (t :: ts) = pre t ++ preL ts := rfl

theorem preL_append (a b : List Tree) : preL (a ++ b) = preL a ++ preL b := by
  simp [preL_eq_flatMap]

theorem sizeL_append (a b : List Tree) : sizeL (a ++ b) = sizeL a + sizeL b := by
  induction a with
  | nil => rw [List.nil_append, sizeL, Nat.zero_add]
  | cons t ts ih => rw [List.cons_append, sizeL, sizeL, ih, Nat.add_assoc]

theorem pre_eq (t : Tree) : pre t = t :: preL t.kids := by
  cases t; rfl

theorem Tree.forest_induction (P : Tree → Prop) (PL : List Tree → Prop)
    (hnode : ∀ i o ks, PL ks → P (node i o ks)) (hnil : PL [])
    (hcons : ∀ t ts, P t → PL ts → PL (t :: ts)) : (∀ t, P t) ∧ (∀ l, PL l) :=
  ⟨fun t => Tree.rec (motive_1 := P) (motive_2 := PL) hnode hnil hcons t,
   fun l => Tree.rec_1 (motive_1 := P) (motive_2 := PL) hnode hnil hcons l⟩

theorem Tree.ind {P : Tree → Prop} (h : ∀ i o ks, (∀ k ∈ ks, P k) → P (node i o ks)) (t : Tree) : P t :=
  (Tree.forest_induction P (fun l => ∀ k ∈ l, P k) h (fun _ hk => nomatch hk)
    (fun _ _ ht hts _ hk => (List.mem_cons.mp hk).elim (· ▸ ht) (hts _))).1 t

theorem preL_perm {a b : List Tree} (h : a.Perm b) : (preL a).Perm (preL b) := by
  rw [preL_eq_flatMap, preL_eq_flatMap]; exact h.flatMap_right _

theorem preL_sublist {a b : List Tree} (h : a.Sublist b) : (preL a).Sublist (preL b) := by
  rw [preL_eq_flatMap, preL_eq_flatMap]; exact h.flatMap' _

theorem mem_preL {x : Tree} {ts : List Tree} : x ∈ preL ts ↔ ∃ t ∈ ts, x ∈ pre t := by
  rw [preL_eq_flatMap, List.mem_flatMap]

theorem preL_singleton (t : Tree) : preL [t] = pre t := List.append_nil _

theorem mem_pre {x t : Tree} : x ∈ pre t ↔ x = t ∨ x ∈ preL t.kids := by rw [pre_eq, List.mem_cons]

theorem mem_pre_self (t : Tree) : t ∈ pre t := mem_pre.mpr (.inl rfl)

theorem mem_preL_of_mem {t : Tree} {ts : List Tree} (h : t ∈ ts) : t ∈ preL ts :=
  mem_preL.mpr ⟨t, h, mem_pre_self t⟩

theorem mem_preL_of_kids {x t : Tree} {l : List Tree} (h : t ∈ l) (hx : x ∈ preL t.kids) :
    x ∈ preL l :=
  mem_preL.mpr ⟨t, h, mem_pre.mpr (Or.inr hx)⟩

theorem kid_mem_pre {k t : Tree} (h : k ∈ t.kids) : k ∈ pre t := mem_pre.mpr (.inr (mem_preL_of_mem h))

theorem pre_subset_pre {s t : Tree} (hs : s ∈ pre t) : ∀ x ∈ pre s, x ∈ pre t := by
  induction t using Tree.ind with
  | h i o ks ih =>
    intro x hx
    rcases mem_pre.mp hs with rfl | hs
    · exact hx
    · obtain ⟨k, hk, hsk⟩ := mem_preL.mp hs
      exact mem_pre.mpr (.inr (mem_preL.mpr ⟨k, hk, ih k hk hsk x hx⟩))

theorem pre_subset_preL {f : List Tree} {s : Tree} (hs : s ∈ preL f) : ∀ x ∈ pre s, x ∈ preL f :=
  fun x hx =>
    have ⟨t, ht, hst⟩ := mem_preL.mp hs
    mem_preL.mpr ⟨t, ht, pre_subset_pre hst x hx⟩

theorem kid_mem_preL {f : List Tree} {t k : Tree} (ht : t ∈ preL f) (hk : k ∈ t.kids) : k ∈ preL f :=
  pre_subset_preL ht k (kid_mem_pre hk)

theorem preL_topdown {f : List Tree} {Q : Tree → Prop} (root : ∀ t ∈ f, Q t)
    (kid : ∀ P ∈ preL f, Q P → ∀ k ∈ P.kids, Q k) : ∀ s ∈ preL f, Q s := by
  have down : ∀ t, t ∈ preL f → Q t → ∀ s ∈ pre t, Q s := by
    intro t
    induction t using Tree.ind with
    | h i o ks ih =>
      intro ht hQ s hs
      rcases mem_pre.mp hs with rfl | hs
      · exact hQ
      · obtain ⟨k, hk, hsk⟩ := mem_preL.mp hs
        exact ih k hk (kid_mem_preL ht hk) (kid _ ht hQ k hk) s hsk
  intro s hs
  obtain ⟨t, ht, hst⟩ := mem_preL.mp hs
  exact down t (mem_preL_of_mem ht) (root t ht) s hst

theorem root_or_parent {l : List Tree} : ∀ s ∈ preL l, s ∈ l ∨ ∃ P ∈ preL l, s ∈ P.kids :=
  preL_topdown (fun _ ht => .inl ht) fun P hP _ _ hk => .inr ⟨P, hP, hk⟩

theorem exists_parent {f : List Tree} {r s : Tree} (hr : r ∈ f) (hs : s ∈ preL r.kids) :
    ∃ P ∈ preL f, s ∈ P.kids :=
  (root_or_parent s hs).elim (fun h => ⟨r, mem_preL_of_mem hr, h⟩)
    fun ⟨P, hP, h⟩ => ⟨P, mem_preL_of_kids hr hP, h⟩

theorem preL_perm_roots_kids :
    (∀ t : Tree, (pre t).Perm (t :: (pre t).flatMap Tree.kids)) ∧
    (∀ l : List Tree, (preL l).Perm (l ++ (preL l).flatMap Tree.kids)) := by
  apply Tree.forest_induction
  · intro i o ks ih
    rw [pre, List.flatMap_cons]
    exact ih.cons _
  · exact .refl _
  · intro t ts h1 h2
    rw [preL_cons, List.flatMap_append]
    exact (h1.append h2).trans ((List.perm_append_comm_assoc _ _ _).cons _)

theorem pre_infix_preL {t : Tree} {f : List Tree} (h : t ∈ f) : pre t <:+: preL f := by
  rw [preL_eq_flatMap, List.flatMap_def]; exact List.infix_of_mem_flatten (List.mem_map_of_mem h)

theorem pre_infix {t u : Tree} (h : t ∈ pre u) : pre t <:+: pre u := by
  induction u using Tree.ind with
  | h i o ks ih =>
    rcases mem_pre.mp h with rfl | h
    · exact List.infix_refl _
    · obtain ⟨k, hk, htk⟩ := mem_preL.mp h
      exact pre_eq (node i o ks) ▸ List.infix_cons ((ih k hk htk).trans (pre_infix_preL hk))

theorem preL_infix {t : Tree} {f : List Tree} (h : t ∈ preL f) : pre t <:+: preL f :=
  have ⟨_, hr, htr⟩ := mem_preL.mp h
  (pre_infix htr).trans (pre_infix_preL hr)

theorem isLeaf_iff (t : Tree) : t.isLeaf = true ↔ t.kids = [] := List.isEmpty_iff

theorem pixels_eq_own (t : Tree) : t.pixels = (pre t).flatMap Tree.own := by
  induction t using Tree.ind with
  | h i o ks ih =>
    rw [pixels, pre, List.flatMap_cons, pixelsL_eq_flatMap, preL_eq_flatMap, List.flatMap_assoc]
    exact congrArg _ (List.flatMap_congr' ih)

theorem pixelsL_eq_own (f : List Tree) : pixelsL f = (preL f).flatMap Tree.own := by
  rw [pixelsL_eq_flatMap, preL_eq_flatMap, List.flatMap_assoc]
  exact List.flatMap_congr' fun t _ => pixels_eq_own t

theorem mem_pixels_iff {t : Tree} {x : Nat} : x ∈ t.pixels ↔ ∃ s ∈ pre t, x ∈ s.own := by
  rw [pixels_eq_own, List.mem_flatMap]

theorem mem_pixelsL_iff {f : List Tree} {x : Nat} : x ∈ pixelsL f ↔ ∃ s ∈ preL f, x ∈ s.own := by
  rw [pixelsL_eq_own, List.mem_flatMap]

theorem own_pixels_sub (t : Tree) {x : Nat} (h : x ∈ t.own) : x ∈ t.pixels :=
  mem_pixels_iff.mpr ⟨t, mem_pre_self t, h⟩

theorem kids_pixels_sub (t : Tree) {x : Nat} (h : x ∈ pixelsL t.kids) : x ∈ t.pixels := by
  rw [pixels_eq]; exact List.mem_append_right _ h

theorem pixels_sub_preL (f : List Tree) (s : Tree) (h : s ∈ preL f) : ∀ x ∈ s.pixels, x ∈ pixelsL f :=
  fun _ hx =>
    have ⟨u, hu, hxu⟩ := mem_pixels_iff.mp hx
    mem_pixelsL_iff.mpr ⟨u, pre_subset_preL h u hu, hxu⟩

theorem leaf_pixels {t : Tree} (h : t.kids = []) : t.pixels = t.own := by simp [pixels_eq, h, pixelsL]

theorem pixels_leaf (i : Nat) (ps : List Nat) : (Tree.node i ps []).pixels = ps := leaf_pixels rfl

theorem own_ne_pixels_ne {t : Tree} (h : t.own ≠ []) : t.pixels ≠ [] := by
  rw [pixels_eq]; intro e; exact h (List.append_eq_nil_iff.mp e).1

theorem sortById_isSort : IsInsertSort (fun t u : Tree => t.id ≤ u.id) insertById sortById :=
  ⟨fun _ => rfl, fun _ _ _ => rfl, rfl, fun _ _ => rfl⟩

theorem sortById_perm (l : List Tree) : (sortById l).Perm l := sortById_isSort.perm l

theorem sortById_sorted (l : List Tree) : (sortById l).Pairwise (fun a b => a.id ≤ b.id) :=
  sortById_isSort.sorted (fun a b => Nat.le_total a.id b.id) (fun _ _ _ => Nat.le_trans) l

theorem mem_sortById {t : Tree} {l : List Tree} : t ∈ sortById l ↔ t ∈ l := (sortById_perm l).mem_iff

/-! A trunk step (`makeTrunk`, `makeTrunkP`) is a filter of the root list sorted by identifier. -/

theorem trunk_ids_nodup (q : Tree → Bool) (f : List Tree) (h : ((preL f).map Tree.id).Nodup) :
    ((preL ((sortById f).filter q)).map Tree.id).Nodup := by
  have h1 : ((preL (sortById f)).map Tree.id).Nodup :=
    (((preL_perm (sortById_perm f)).map Tree.id).nodup_iff).mpr h
  exact ((preL_sublist List.filter_sublist).map Tree.id).nodup h1

theorem trunk_pixels_nodup (q : Tree → Bool) (f : List Tree) (h : (pixelsL f).Nodup) :
    (pixelsL ((sortById f).filter q)).Nodup := by
  have h1 : (pixelsL (sortById f)).Nodup := (pixelsL_perm (sortById_perm f)).nodup_iff.mpr h
  exact (pixelsL_sublist List.filter_sublist).nodup h1

theorem trunk_nodes_subset (q : Tree → Bool) (f : List Tree) :
    ∀ t ∈ preL ((sortById f).filter q), t ∈ preL f := by
  intro t ht
  exact (preL_perm (sortById_perm f)).subset ((preL_sublist List.filter_sublist).subset ht)

theorem trunk_pixels_subset (q : Tree → Bool) (f : List Tree) :
    ∀ p ∈ pixelsL ((sortById f).filter q), p ∈ pixelsL f := by
  intro p hp
  exact (pixelsL_perm (sortById_perm f)).subset ((pixelsL_sublist List.filter_sublist).subset hp)

theorem addPixel_eq (t : Tree) (p : Nat) : t.addPixel p = node t.id (t.own ++ [p]) t.kids := rfl

theorem own_addPixel (t : Tree) (p : Nat) : (t.addPixel p).own = t.own ++ [p] := rfl

theorem own_absorb (t m : Tree) : (t.absorb m).own = t.own ++ m.own := rfl

theorem minL_eq_iff {d : Int} {l : List Int} (h : l ≠ []) {a : Int} :
    minL d l = a ↔ a ∈ l ∧ ∀ b ∈ l, a ≤ b := by
  cases l with
  | nil => exact absurd rfl h
  | cons x xs => rw [minL, ← List.min?_eq_some_iff, List.min?_cons', Option.some.injEq]

theorem maxL_eq_iff {d : Int} {l : List Int} (h : l ≠ []) {a : Int} :
    maxL d l = a ↔ a ∈ l ∧ ∀ b ∈ l, b ≤ a := by
  cases l with
  | nil => exact absurd rfl h
  | cons x xs => rw [maxL, ← List.max?_eq_some_iff, List.max?_cons', Option.some.injEq]

theorem minL_le {d : Int} {l : List Int} {y : Int} (h : y ∈ l) : minL d l ≤ y :=
  ((minL_eq_iff (List.ne_nil_of_mem h)).mp rfl).2 y h

theorem le_maxL {d : Int} {l : List Int} {y : Int} (h : y ∈ l) : y ≤ maxL d l :=
  ((maxL_eq_iff (List.ne_nil_of_mem h)).mp rfl).2 y h

theorem minL_congr {d : Int} {a b : List Int} (h : ∀ x, x ∈ a ↔ x ∈ b) : minL d a = minL d b := by
  rcases a with _ | ⟨x, a⟩
  · rw [List.eq_nil_iff_forall_not_mem.mpr fun y hy => nomatch (h y).mpr hy]
  · have hb := List.ne_nil_of_mem ((h x).mp List.mem_cons_self)
    have ⟨h1, h2⟩ := (minL_eq_iff (d := d) hb).mp rfl
    exact (minL_eq_iff (by simp)).mpr ⟨(h _).mpr h1, fun y hy => h2 y ((h y).mp hy)⟩

theorem maxL_congr {d : Int} {a b : List Int} (h : ∀ x, x ∈ a ↔ x ∈ b) : maxL d a = maxL d b := by
  rcases a with _ | ⟨x, a⟩
  · rw [List.eq_nil_iff_forall_not_mem.mpr fun y hy => nomatch (h y).mpr hy]
  · have hb := List.ne_nil_of_mem ((h x).mp List.mem_cons_self)
    have ⟨h1, h2⟩ := (maxL_eq_iff (d := d) hb).mp rfl
    exact (maxL_eq_iff (by simp)).mpr ⟨(h _).mpr h1, fun y hy => h2 y ((h y).mp hy)⟩

theorem maxL_mono (d : Int) {a b : List Int} (ha : a ≠ []) (h : ∀ x ∈ a, x ∈ b) : maxL d a ≤ maxL d b :=
  le_maxL (h _ ((maxL_eq_iff ha).mp rfl).1)

theorem minL_anti (d : Int) {a b : List Int} (ha : a ≠ []) (h : ∀ x ∈ a, x ∈ b) : minL d b ≤ minL d a :=
  minL_le (h _ ((minL_eq_iff ha).mp rfl).1)

theorem minL_append (d : Int) {a b : List Int} (ha : a ≠ []) (hb : b ≠ []) :
    minL d (a ++ b) = min (minL d a) (minL d b) := by
  match a, ha, b, hb with
  | x :: xs, _, y :: ys, _ =>
    simp only [minL, List.cons_append, List.foldl_append, List.foldl_cons]
    exact List.foldl_assoc

theorem maxL_append (d : Int) {a b : List Int} (ha : a ≠ []) (hb : b ≠ []) :
    maxL d (a ++ b) = max (maxL d a) (maxL d b) := by
  match a, ha, b, hb with
  | x :: xs, _, y :: ys, _ =>
    simp only [maxL, List.cons_append, List.foldl_append, List.foldl_cons]
    exact List.foldl_assoc

theorem minNatL_append (d : Nat) {a b : List Nat} (ha : a ≠ []) (hb : b ≠ []) :
    minNatL d (a ++ b) = min (minNatL d a) (minNatL d b) := by
  match a, ha, b, hb with
  | x :: xs, _, y :: ys, _ =>
    simp only [minNatL, List.cons_append, List.foldl_append, List.foldl_cons]
    exact List.foldl_assoc

theorem vmin_eq_iff {val : Nat → Int} {t : Tree} (h : t.own ≠ []) {v : Int} :
    t.vmin val = v ↔ (∃ a ∈ t.own, val a = v) ∧ ∀ a ∈ t.own, v ≤ val a := by
  rw [Tree.vmin, minL_eq_iff (mt List.map_eq_nil_iff.mp h), List.mem_map, List.forall_mem_map]

theorem vmax_eq_iff {val : Nat → Int} {t : Tree} (h : t.own ≠ []) {v : Int} :
    t.vmax val = v ↔ (∃ a ∈ t.own, val a = v) ∧ ∀ a ∈ t.own, val a ≤ v := by
  rw [Tree.vmax, maxL_eq_iff (mt List.map_eq_nil_iff.mp h), List.mem_map, List.forall_mem_map]

theorem vmin_le (val : Nat → Int) (t : Tree) (a : Nat) (ha : a ∈ t.own) : t.vmin val ≤ val a :=
  minL_le (List.mem_map_of_mem ha)

theorem le_vmax (val : Nat → Int) (t : Tree) (a : Nat) (ha : a ∈ t.own) : val a ≤ t.vmax val :=
  le_maxL (List.mem_map_of_mem ha)

theorem vmin_le_vmax (val : Nat → Int) (t : Tree) (hne : t.own ≠ []) : t.vmin val ≤ t.vmax val := by
  obtain ⟨a, ha⟩ := List.exists_mem_of_ne_nil _ hne
  exact Int.le_trans (vmin_le val t a ha) (le_vmax val t a ha)

theorem vmax_attained (val : Nat → Int) (t : Tree) (h : t.own ≠ []) : ∃ a ∈ t.own, t.vmax val = val a :=
  have ⟨a, ha, hv⟩ := ((vmax_eq_iff h).mp rfl).1
  ⟨a, ha, hv.symm⟩

theorem vmax_of_flat {val : Nat → Int} {t : Tree} {v : Int} (hne : t.own ≠ [])
    (h : ∀ a ∈ t.own, val a = v) : t.vmax val = v :=
  have ⟨a, ha⟩ := List.exists_mem_of_ne_nil _ hne
  (vmax_eq_iff hne).mpr ⟨⟨a, ha, h a ha⟩, fun b hb => Int.le_of_eq (h b hb)⟩

theorem vmin_perm (val : Nat → Int) {t t' : Tree} (h : t'.own.Perm t.own) : t'.vmin val = t.vmin val :=
  minL_congr fun _ => (h.map val).mem_iff

theorem vmax_perm (val : Nat → Int) {t t' : Tree} (h : t'.own.Perm t.own) : t'.vmax val = t.vmax val :=
  maxL_congr fun _ => (h.map val).mem_iff

/-! What `_add_pixel` and `_merge` maintain incrementally. -/

namespace P8

theorem vmax_absorb (val : Nat → Int) (t m : Tree) (ht : t.own ≠ []) (hm : m.own ≠ []) :
    (t.absorb m).vmax val = max (t.vmax val) (m.vmax val) := by
  unfold Tree.vmax
  rw [own_absorb, List.map_append, maxL_append _ (by simpa using ht) (by simpa using hm)]

theorem vmin_absorb (val : Nat → Int) (t m : Tree) (ht : t.own ≠ []) (hm : m.own ≠ []) :
    (t.absorb m).vmin val = min (t.vmin val) (m.vmin val) := by
  unfold Tree.vmin
  rw [own_absorb, List.map_append, minL_append _ (by simpa using ht) (by simpa using hm)]

theorem vmax_addPixel (val : Nat → Int) (t : Tree) (p : Nat) (h : t.own ≠ []) :
    (t.addPixel p).vmax val = max (t.vmax val) (val p) := by
  unfold Tree.vmax
  rw [own_addPixel, List.map_append, maxL_append _ (by simpa using h) (by simp)]
  rfl

theorem vmin_addPixel (val : Nat → Int) (t : Tree) (p : Nat) (h : t.own ≠ []) :
    (t.addPixel p).vmin val = min (t.vmin val) (val p) := by
  unfold Tree.vmin
  rw [own_addPixel, List.map_append, minL_append _ (by simpa using h) (by simp)]
  rfl

theorem smallest_absorb (t m : Tree) (ht : t.own ≠ []) (hm : m.own ≠ []) :
    (t.absorb m).smallest = min t.smallest m.smallest := by
  unfold Tree.smallest
  rw [own_absorb, minNatL_append _ ht hm]

theorem smallest_addPixel (t : Tree) (p : Nat) (h : t.own ≠ []) :
    (t.addPixel p).smallest = min t.smallest p := by
  unfold Tree.smallest
  rw [own_addPixel, minNatL_append _ h (by simp)]
  rfl

end P8
