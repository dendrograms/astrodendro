import ADModel.LabelMap
import ADProofs.Basic
/-! The structure that receives a pixel, in closed form: one case analysis of `joinAdj`, and the same relative to the
roots before the step (`Recv`).  The absorbed leaves are `mergedOf E p adj`, the list `merge` of the label-map model
(`ADModel/LabelMap.lean`, imported for it): the insignificant adjacent leaves, without the one that receives the pixel. -/
open Tree

namespace P10
def ownL (l : List Tree) : List Nat := l.flatMap Tree.own
end P10
open P10 (ownL)

theorem ownL_cons (t : Tree) (l : List Tree) : ownL (t :: l) = t.own ++ ownL l := rfl
theorem ownL_append (a b : List Tree) : ownL (a ++ b) = ownL a ++ ownL b := List.flatMap_append
theorem mem_ownL {x : Nat} {l : List Tree} : x ∈ ownL l ↔ ∃ m ∈ l, x ∈ m.own := by
  simp [ownL]
theorem ownL_perm {a b : List Tree} (h : a.Perm b) : (ownL a).Perm (ownL b) := h.flatMap_right _

/-- the loop `for m in merge: belongs_to._merge(m)` -/
theorem foldl_absorb_eq (ms : List Tree) (t : Tree) :
    ms.foldl Tree.absorb t = node t.id (t.own ++ ownL ms) t.kids := by
  induction ms generalizing t with
  | nil => cases t; simp [ownL]
  | cons m ms ih => simp [ih, absorb, ownL_cons, List.append_assoc]

theorem touches_iff (E : Env) (p : Nat) (t : Tree) : touches E p t = true ↔ ∃ q, q ∈ t.pixels ∧ q ∈ E.nbrs p := by
  simp only [touches, List.any_eq_true, decide_eq_true_eq]
  exact ⟨fun ⟨q, h1, h2⟩ => ⟨q, h2, h1⟩, fun ⟨q, h1, h2⟩ => ⟨q, h2, h1⟩⟩

theorem insig_iff (E : Env) (p : Nat) (t : Tree) :
    insig E p t = true ↔ t.kids = [] ∧ (t.vmax E.val = E.val p ∨ E.indep t p (E.val p) = false) := by
  simp [insig, isLeaf, List.isEmpty_iff]

theorem insig_iff_of_noprune {E : Env} (hno : ∀ t p v, E.indep t p v = true) (p : Nat) (t : Tree) :
    insig E p t = true ↔ t.kids = [] ∧ t.vmax E.val = E.val p := by
  rw [insig_iff]; simp [hno]

theorem pixelsL_leaves {ms : List Tree} (h : ∀ m ∈ ms, m.kids = []) : pixelsL ms = ownL ms := by
  induction ms with
  | nil => rfl
  | cons m ms ih =>
    have := h m (by simp)
    simp only [pixelsL, ownL_cons, pixels_eq, this, List.append_nil,
      ih (fun x hx => h x (List.mem_cons_of_mem _ hx))]

/-- The case analysis of the loop body (dendrogram.py:252-323) with its two outcomes left open: an adjacent
root `t` receives the pixel and absorbs the leaves `ms` (`grow t ms`), or a new structure absorbs the leaves
`ms` and is put over the roots `ks` (`new ms ks`).  `joinAdj` is the instance on trees (`joinAdj_eq_cases`);
the loop body on objects is another (`P42.joinObj_eq_cases`). -/
def joinCases {α : Type} (E : Env) (p : Nat) (grow : Tree → List Tree → α) (new : List Tree → List Tree → α)
    (adj : List Tree) : α :=
  match adj with
  | []  => new [] []
  | [t] => grow t []
  | _   =>
    let mrg  := adj.filter (insig E p)
    let keep := adj.filter (fun t => !insig E p t)
    match keep with
    | [] =>
      match mrg.reverse with
      | [] => new [] []
      | b :: others => grow b others.reverse
    | [t] => grow t mrg
    | _   => new mrg keep

theorem joinAdj_eq_cases (E : Env) (p : Nat) (adj : List Tree) :
    joinAdj E p adj = joinCases E p (fun t ms => ms.foldl Tree.absorb (t.addPixel p))
      (fun ms ks => ms.foldl Tree.absorb (node p [p] ks)) adj := by
  match adj with
  | [] => rfl
  | [_] => rfl
  | _ :: _ :: _ => rfl

/-- For every instance at once: either one adjacent root `t` grows (it is the only significant one, or nothing is
significant and it is the last), or a new structure is created over the significant roots (none, or at least two). -/
theorem joinCases_cases (E : Env) (p : Nat) (adj : List Tree) :
    (∃ t, adj.Perm (t :: mergedOf E p adj) ∧
      ∀ {α : Type} (grow : Tree → List Tree → α) (new : List Tree → List Tree → α),
        joinCases E p grow new adj = grow t (mergedOf E p adj)) ∨
    ((adj = [] ∨ 2 ≤ (adj.filter (fun t => !insig E p t)).length) ∧
      mergedOf E p adj = adj.filter (insig E p) ∧
      ∀ {α : Type} (grow : Tree → List Tree → α) (new : List Tree → List Tree → α),
        joinCases E p grow new adj =
          new (adj.filter (insig E p)) (adj.filter (fun t => !insig E p t))) := by
  match adj with
  | [] => exact .inr ⟨.inl rfl, rfl, fun _ _ => rfl⟩
  | [t] => exact .inl ⟨t, .refl _, fun _ _ => rfl⟩
  | a :: b :: rest =>
    dsimp only [joinCases, mergedOf]
    generalize (a :: b :: rest) = A
    have hp := (List.filter_append_perm (insig E p) A).symm
    rcases hk : A.filter (fun t => !insig E p t) with _ | ⟨k1, _ | ⟨k2, ks⟩⟩ <;> rw [hk] at hp
    · rw [List.append_nil] at hp
      rcases hr : (A.filter (insig E p)).reverse with _ | ⟨last, ro⟩ <;> dsimp only
      · rw [List.reverse_eq_nil_iff.mp hr] at hp ⊢
        exact .inr ⟨.inl hp.eq_nil, rfl, fun _ _ => rfl⟩
      · rw [List.reverse_eq_cons_iff.mp hr] at hp ⊢
        rw [List.dropLast_concat]
        exact .inl ⟨last, hp.trans List.perm_append_comm, fun _ _ => rfl⟩
    · exact .inl ⟨k1, hp.trans List.perm_append_comm, fun _ _ => rfl⟩
    · exact .inr ⟨.inr (Nat.le_add_left 2 ks.length), rfl, fun _ _ => rfl⟩

theorem joinAdj_cases (E : Env) (p : Nat) (adj : List Tree) :
    (∃ t, adj.Perm (t :: mergedOf E p adj) ∧
        joinAdj E p adj = node t.id (t.own ++ p :: ownL (mergedOf E p adj)) t.kids) ∨
    ((adj = [] ∨ 2 ≤ (adj.filter (fun t => !insig E p t)).length) ∧
        mergedOf E p adj = adj.filter (insig E p) ∧
        joinAdj E p adj = node p (p :: ownL (adj.filter (insig E p)))
          (adj.filter (fun t => !insig E p t))) := by
  rw [joinAdj_eq_cases]
  rcases joinCases_cases E p adj with ⟨t, hp, he⟩ | ⟨h, hm, he⟩ <;> rw [he]
  · exact .inl ⟨t, hp, by simp [foldl_absorb_eq, addPixel_eq]⟩
  · exact .inr ⟨h, hm, by simp [foldl_absorb_eq]⟩

theorem mergedOf_insig {E : Env} {p : Nat} {adj : List Tree} {m : Tree} (h : m ∈ mergedOf E p adj) :
    m ∈ adj ∧ insig E p m = true := by
  refine List.mem_filter.mp ?_
  unfold mergedOf at h
  split at h
  · cases h
  · cases h
  · split at h
    · exact List.dropLast_subset _ h
    · exact h

/-- in the first case of `joinAdj_cases` the significant adjacent roots are `t` itself, or none -/
theorem keep_of_grow {E : Env} {p : Nat} {adj : List Tree} {t : Tree}
    (h : adj.Perm (t :: mergedOf E p adj)) :
    adj.filter (fun t => !insig E p t) = [t].filter (fun t => !insig E p t) := by
  have hM : (mergedOf E p adj).filter (fun t => !insig E p t) = [] :=
    List.filter_eq_nil_iff.mpr fun m hm => by simp [(mergedOf_insig hm).2]
  have := h.filter (fun t => !insig E p t)
  rw [List.filter_cons, hM] at this
  rw [List.filter_cons, List.filter_nil]
  cases hi : !insig E p t <;> rw [hi] at this
  · exact this.eq_nil
  · exact List.perm_singleton.mp this

theorem mem_adjacent {E : Env} {roots : List Tree} {p : Nat} {t : Tree} :
    t ∈ sortById (roots.filter (touches E p)) ↔ t ∈ roots ∧ touches E p t = true := by
  rw [mem_sortById, List.mem_filter]

theorem roots_perm (E : Env) (roots : List Tree) (p : Nat) :
    roots.Perm (roots.filter (fun t => !touches E p t) ++ roots.filter (touches E p)) :=
  (List.filter_append_perm (touches E p) roots).symm.trans List.perm_append_comm

theorem mem_step {E : Env} {roots : List Tree} {p : Nat} {r : Tree} :
    r ∈ step E roots p ↔ (r ∈ roots ∧ touches E p r = false) ∨
      r = joinAdj E p (sortById (roots.filter (touches E p))) := by
  simp [step, List.mem_filter]

/-- The structure that receives `p`, relative to the roots before the step: `joinAdj_cases` with the adjacent roots up to
order, so that neither `sortById` nor `mergedOf` occurs. -/
inductive Recv (E : Env) (roots : List Tree) (p : Nat) : Tree → Prop
  | grow (t : Tree) (abs : List Tree) : (roots.filter (touches E p)).Perm (t :: abs) →
      (∀ m ∈ abs, insig E p m = true) →
      Recv E roots p (node t.id (t.own ++ p :: ownL abs) t.kids)
  | new (abs keep : List Tree) : (roots.filter (touches E p)).Perm (abs ++ keep) →
      (∀ m ∈ abs, insig E p m = true) → (∀ L ∈ keep, insig E p L = false) →
      (keep = [] ∨ 2 ≤ keep.length) →
      Recv E roots p (node p (p :: ownL abs) keep)

theorem recv_joinAdj (E : Env) (roots : List Tree) (p : Nat) :
    Recv E roots p (joinAdj E p (sortById (roots.filter (touches E p)))) := by
  rcases joinAdj_cases E p (sortById (roots.filter (touches E p))) with ⟨t, hperm, he⟩ | ⟨h, _, he⟩ <;>
    rw [he]
  · exact .grow t _ ((sortById_perm _).symm.trans hperm) fun m hm => (mergedOf_insig hm).2
  · exact .new _ _ ((sortById_perm _).symm.trans (List.filter_append_perm _ _).symm)
      (fun m hm => (List.mem_filter.mp hm).2) (fun L hL => by simpa using (List.mem_filter.mp hL).2)
      (h.imp_left fun h => by rw [h]; rfl)

theorem mem_adj_of_perm {E : Env} {roots l : List Tree} {p : Nat}
    (h : (roots.filter (touches E p)).Perm l) {m : Tree} (hm : m ∈ l) :
    m ∈ roots ∧ touches E p m = true :=
  List.mem_filter.mp (h.mem_iff.mpr hm)

theorem Recv.grow_root_mem {E : Env} {roots abs : List Tree} {p : Nat} {t : Tree}
    (h : (roots.filter (touches E p)).Perm (t :: abs)) : t ∈ preL roots :=
  mem_preL_of_mem (mem_adj_of_perm h List.mem_cons_self).1

theorem Recv.mem_own_grow {t : Tree} {abs : List Tree} {p a : Nat} :
    a ∈ (node t.id (t.own ++ p :: ownL abs) t.kids).own ↔ a ∈ t.own ∨ a = p ∨ ∃ m ∈ abs, a ∈ m.own := by
  simp only [own_node, List.mem_append, List.mem_cons, mem_ownL]

theorem Recv.mem_own_new {abs keep : List Tree} {p a : Nat} :
    a ∈ (node p (p :: ownL abs) keep).own ↔ a = p ∨ ∃ m ∈ abs, a ∈ m.own := by
  simp only [own_node, List.mem_cons, mem_ownL]
