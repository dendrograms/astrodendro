import ADModel.Criteria
import ADProofs.Forest
/-!
# ADProofs.SimProofs — equivariance of the pixel loop (C16, C17)

Two environments `E`, `E'` and a renaming `σ` of pixels: run 1 processes `order` in `E`, run 2
processes `order.map σ` in `E'`.  If adjacency among ordered pixels corresponds, the value map
preserves the order of values and the significance decisions on corresponding leaves agree (`Hyp`),
the two forests are *similar*: same regions and same parent relation, up to identifiers and list
orders (`run_sim_of_hyp`).

Two ideas carry the file.  `SimL σ` is `PR (Sim σ)`, lists related element by element up to a
permutation (`simL_iff`), so what is needed about similar forests is proved about lists.  And the
structure that receives a pixel is, up to similarity, `P18.finishG` over the adjacent roots
(`joinAdj_finishG`): a form of `joinAdj` that shows neither the order of the roots nor which of
them survives, so that one step only needs `touches` and `insig` to agree on related roots
(`step_pr`; PruneOrigProofs uses it with another relation).
-/
open Tree

namespace P10

mutual
/-- `Sim σ t t'`: `t'` is `t` with pixels renamed by `σ`, up to identifiers, the order of own
pixels and the order of children. -/
inductive Sim (σ : Nat → Nat) : Tree → Tree → Prop
  | mk {i i' o o' ks ks'} : o'.Perm (o.map σ) → SimL σ ks ks' → Sim σ (.node i o ks) (.node i' o' ks')
/-- forests similar up to reordering: `PR (Sim σ)` (`simL_iff`), written as an inductive of its own because the
kernel does not accept `PR (Sim σ) ks ks'` (an occurrence of `Sim` under `∃` and `Perm`) in the constructor of `Sim` -/
inductive SimL (σ : Nat → Nat) : List Tree → List Tree → Prop
  | nil : SimL σ [] []
  | cons {t t' ts ts' ts''} : Sim σ t t' → SimL σ ts ts' → ts''.Perm (t' :: ts') → SimL σ (t :: ts) ts''
end

/-- element-wise relation of two lists (`List.Forall₂` of Batteries/Mathlib) -/
inductive F2 {α β : Type} (R : α → β → Prop) : List α → List β → Prop
  | nil : F2 R [] []
  | cons {a b l₁ l₂} : R a b → F2 R l₁ l₂ → F2 R (a :: l₁) (b :: l₂)

def PR {α β : Type} (R : α → β → Prop) (l : List α) (l' : List β) : Prop :=
  ∃ m, F2 R l m ∧ m.Perm l'

section PR
variable {α β γ : Type} {R : α → β → Prop}

theorem F2.length_eq {l : List α} {m : List β} (h : F2 R l m) : l.length = m.length := by
  induction h with
  | nil => rfl
  | cons _ _ ih => simp [ih]

theorem F2.append {a b : List α} {a' b' : List β} (h1 : F2 R a a')
    (h2 : F2 R b b') : F2 R (a ++ b) (a' ++ b') := by
  induction h1 with
  | nil => exact h2
  | cons h _ ih => exact .cons h ih

theorem F2.filter {f : α → Bool} {g : β → Bool} {l : List α} {m : List β}
    (h : F2 R l m) (hfg : ∀ x ∈ l, ∀ y, R x y → f x = g y) :
    F2 R (l.filter f) (m.filter g) := by
  induction h with
  | nil => exact .nil
  | cons hxy _ ih =>
    have ih' := ih fun x hx => hfg x (List.mem_cons_of_mem _ hx)
    rw [List.filter_cons, List.filter_cons, hfg _ (by simp) _ hxy]
    split
    · exact .cons hxy ih'
    · exact ih'

theorem F2.mem_left {l : List α} {m : List β} (h : F2 R l m) :
    ∀ x ∈ l, ∃ y ∈ m, R x y := by
  induction h with
  | nil => intro x hx; simp at hx
  | cons hxy _ ih =>
    intro x hx
    rcases List.mem_cons.mp hx with rfl | hx
    · exact ⟨_, by simp, hxy⟩
    · obtain ⟨y, hy, hr⟩ := ih x hx; exact ⟨y, List.mem_cons_of_mem _ hy, hr⟩

theorem F2.refl {R : α → α → Prop} (l : List α) (h : ∀ x ∈ l, R x x) : F2 R l l := by
  induction l with
  | nil => exact .nil
  | cons a l ih => exact .cons (h a (by simp)) (ih (fun x hx => h x (List.mem_cons_of_mem _ hx)))

/-- In `flip`, `trans` (and `filter` above) the hypothesis on the relations is only asked of the
members of the first list: that is what an induction on trees can supply for a list of children. -/
theorem F2.flip {S : β → α → Prop} {l : List α} {m : List β}
    (h : F2 R l m) (hrs : ∀ x ∈ l, ∀ y, R x y → S y x) : F2 S m l := by
  induction h with
  | nil => exact .nil
  | cons hxy _ ih =>
    exact .cons (hrs _ (by simp) _ hxy) (ih (fun x hx y hy => hrs x (List.mem_cons_of_mem _ hx) y hy))

theorem F2.trans {S : β → γ → Prop} {T : α → γ → Prop} {l : List α} {m : List β} {k : List γ}
    (h1 : F2 R l m) (h2 : F2 S m k) (htr : ∀ x ∈ l, ∀ y z, R x y → S y z → T x z) : F2 T l k := by
  induction h1 generalizing k with
  | nil => cases h2; exact .nil
  | cons hxy _ ih =>
    cases h2 with
    | cons hyz hrest =>
      exact .cons (htr _ (by simp) _ _ hxy hyz)
        (ih hrest (fun x hx y z => htr x (List.mem_cons_of_mem _ hx) y z))

theorem F2.mono {S : α → β → Prop} {l : List α} {m : List β} (h : F2 R l m)
    (hrs : ∀ x y, R x y → S x y) : F2 S l m := by
  induction h with
  | nil => exact .nil
  | cons hxy _ ih => exact .cons (hrs _ _ hxy) ih

theorem F2.map {S : β → γ → Prop} (f : α → β) {l : List α} {m : List γ} :
    F2 (fun a c => S (f a) c) l m ↔ F2 S (l.map f) m := by
  constructor
  · intro h
    induction h with
    | nil => exact .nil
    | cons h _ ih => exact .cons h ih
  · intro h
    induction l generalizing m with
    | nil => cases h; exact .nil
    | cons a l ih => cases h with | cons h1 h2 => exact .cons h1 (ih h2)

theorem F2.perm_left {l l2 : List α} (hp : l.Perm l2) :
    ∀ {m : List β}, F2 R l m → ∃ m2, F2 R l2 m2 ∧ m.Perm m2 := by
  induction hp with
  | nil => intro m h; exact ⟨m, h, List.Perm.refl _⟩
  | cons x _ ih =>
    intro m h
    cases h with
    | cons hxy hrest =>
      obtain ⟨m2, h2, hp2⟩ := ih hrest
      exact ⟨_ :: m2, .cons hxy h2, hp2.cons _⟩
  | swap x y l =>
    intro m h
    cases h with
    | cons hy h' =>
      cases h' with
      | cons hx hrest => exact ⟨_, .cons hx (.cons hy hrest), List.Perm.swap _ _ _⟩
  | trans _ _ ih1 ih2 =>
    intro m h
    obtain ⟨m2, h2, hp2⟩ := ih1 h
    obtain ⟨m3, h3, hp3⟩ := ih2 h2
    exact ⟨m3, h3, hp2.trans hp3⟩

theorem F2.pr {l : List α} {l' : List β} (h : F2 R l l') : PR R l l' := ⟨l', h, List.Perm.refl _⟩

theorem PR.nil : PR R [] [] := F2.nil.pr

theorem PR.single {x : α} {y : β} (h : R x y) : PR R [x] [y] := (F2.cons h .nil).pr

theorem PR.length_eq {l : List α} {l' : List β} (h : PR R l l') : l.length = l'.length := by
  obtain ⟨m, h1, h2⟩ := h
  rw [h1.length_eq, h2.length_eq]

theorem PR.perm_right {l : List α} {l' l'' : List β} (h : PR R l l') (hp : l'.Perm l'') : PR R l l'' := by
  obtain ⟨m, h1, h2⟩ := h
  exact ⟨m, h1, h2.trans hp⟩

theorem PR.perm_left {l l2 : List α} {l' : List β} (h : PR R l l') (hp : l.Perm l2) : PR R l2 l' := by
  obtain ⟨m, h1, h2⟩ := h
  obtain ⟨m2, h3, h4⟩ := F2.perm_left hp h1
  exact ⟨m2, h3, h4.symm.trans h2⟩

theorem PR.append {a b : List α} {a' b' : List β} (h1 : PR R a a') (h2 : PR R b b') :
    PR R (a ++ b) (a' ++ b') := by
  obtain ⟨m1, f1, p1⟩ := h1
  obtain ⟨m2, f2, p2⟩ := h2
  exact ⟨m1 ++ m2, f1.append f2, p1.append p2⟩

theorem PR.filter {f : α → Bool} {g : β → Bool} {l : List α} {l' : List β} (h : PR R l l')
    (hfg : ∀ x ∈ l, ∀ y, R x y → f x = g y) : PR R (l.filter f) (l'.filter g) := by
  obtain ⟨m, h1, h2⟩ := h
  exact ⟨m.filter g, h1.filter hfg, h2.filter g⟩

theorem PR.refl {R : α → α → Prop} {l : List α} (h : ∀ x ∈ l, R x x) : PR R l l := (F2.refl l h).pr

theorem PR.flip {S : β → α → Prop} {l : List α} {l' : List β}
    (h : PR R l l') (hrs : ∀ x ∈ l, ∀ y, R x y → S y x) : PR S l' l := by
  obtain ⟨m, f, pm⟩ := h
  exact (f.flip hrs).pr.perm_left pm

theorem PR.trans {S : β → γ → Prop} {T : α → γ → Prop} {l : List α} {m : List β} {k : List γ}
    (h1 : PR R l m) (h2 : PR S m k) (htr : ∀ x ∈ l, ∀ y z, R x y → S y z → T x z) : PR T l k := by
  obtain ⟨m1, f1, p1⟩ := h1
  obtain ⟨m2, f2, p2⟩ := h2
  obtain ⟨m3, f3, p3⟩ := F2.perm_left p1.symm f2
  exact ⟨m3, f1.trans f3 htr, p3.symm.trans p2⟩

theorem PR.mono {S : α → β → Prop} {l : List α} {l' : List β} (h : PR R l l')
    (hrs : ∀ x y, R x y → S x y) : PR S l l' := by
  obtain ⟨m, f, pm⟩ := h
  exact ⟨m, f.mono hrs, pm⟩

theorem PR.map {S : β → γ → Prop} (f : α → β) {l : List α} {l' : List γ} :
    PR (fun a c => S (f a) c) l l' ↔ PR S (l.map f) l' :=
  exists_congr fun _ => and_congr_left' (F2.map f)

theorem PR.mem_left {l : List α} {l' : List β} (h : PR R l l') : ∀ x ∈ l, ∃ y ∈ l', R x y := by
  obtain ⟨m, h1, h2⟩ := h
  intro x hx
  obtain ⟨y, hy, hr⟩ := h1.mem_left x hx
  exact ⟨y, h2.subset hy, hr⟩

theorem PR.mem_right {l : List α} {l' : List β} (h : PR R l l') : ∀ y ∈ l', ∃ x ∈ l, R x y :=
  (h.flip (S := fun y x => R x y) fun _ _ _ h => h).mem_left

end PR

section SimBasics
variable {σ : Nat → Nat}

theorem simL_iff {l l' : List Tree} : SimL σ l l' ↔ PR (Sim σ) l l' := by
  constructor
  · intro h
    induction l generalizing l' with
    | nil => cases h; exact PR.nil
    | cons t ts ih =>
      cases h with
      | cons h1 h2 h3 =>
        obtain ⟨m, f, pm⟩ := ih h2
        exact ⟨_ :: m, .cons h1 f, (pm.cons _).trans h3.symm⟩
  · rintro ⟨m, f, pm⟩
    induction f generalizing l' with
    | nil => rw [List.nil_perm.mp pm]; exact .nil
    | cons h _ ih => exact .cons h (ih (List.Perm.refl _)) pm.symm

theorem SimL.perm_right {l l' l'' : List Tree} (h : SimL σ l l') (hp : l'.Perm l'') : SimL σ l l'' :=
  simL_iff.mpr ((simL_iff.mp h).perm_right hp)

theorem SimL.perm_left {l l2 l' : List Tree} (h : SimL σ l l') (hp : l.Perm l2) : SimL σ l2 l' :=
  simL_iff.mpr ((simL_iff.mp h).perm_left hp)

theorem SimL.append {a b a' b' : List Tree} (h1 : SimL σ a a') (h2 : SimL σ b b') :
    SimL σ (a ++ b) (a' ++ b') :=
  simL_iff.mpr ((simL_iff.mp h1).append (simL_iff.mp h2))

theorem SimL.single {t t' : Tree} (h : Sim σ t t') : SimL σ [t] [t'] := simL_iff.mpr (PR.single h)

theorem SimL.filter {f g : Tree → Bool} {l l' : List Tree} (h : SimL σ l l')
    (hfg : ∀ x ∈ l, ∀ y, Sim σ x y → f x = g y) : SimL σ (l.filter f) (l'.filter g) :=
  simL_iff.mpr ((simL_iff.mp h).filter hfg)

theorem SimL.length_eq {l l' : List Tree} (h : SimL σ l l') : l.length = l'.length :=
  (simL_iff.mp h).length_eq

theorem SimL.mem_left {l l' : List Tree} (h : SimL σ l l') : ∀ x ∈ l, ∃ y ∈ l', Sim σ x y :=
  (simL_iff.mp h).mem_left

theorem SimL.mem_right {l l' : List Tree} (h : SimL σ l l') : ∀ y ∈ l', ∃ x ∈ l, Sim σ x y :=
  (simL_iff.mp h).mem_right

theorem SimL.nil_iff {l l' : List Tree} (h : SimL σ l l') : l = [] ↔ l' = [] := by
  have := h.length_eq
  rw [← List.length_eq_zero_iff, ← List.length_eq_zero_iff, this]

theorem Sim.own {t t' : Tree} (h : Sim σ t t') : t'.own.Perm (t.own.map σ) := by
  cases h with | mk h1 _ => exact h1

theorem Sim.kids {t t' : Tree} (h : Sim σ t t') : SimL σ t.kids t'.kids := by
  cases h with | mk _ h2 => exact h2

theorem SimL.flatMap_kids {K K' : List Tree} (hk : SimL σ K K') :
    SimL σ (K.flatMap Tree.kids) (K'.flatMap Tree.kids) := by
  obtain ⟨m, f, pm⟩ := simL_iff.mp hk
  refine SimL.perm_right ?_ (pm.flatMap_right _)
  clear pm hk
  induction f with
  | nil => exact .nil
  | cons h _ ih => exact h.kids.append ih

theorem Sim.of {t t' : Tree} (h1 : t'.own.Perm (t.own.map σ)) (h2 : SimL σ t.kids t'.kids) : Sim σ t t' := by
  cases t; cases t'; exact .mk h1 h2

theorem Sim.isLeaf {t t' : Tree} (h : Sim σ t t') : t.isLeaf = t'.isLeaf := by
  have := h.kids.nil_iff
  rw [Bool.eq_iff_iff]
  simpa only [Tree.isLeaf, List.isEmpty_iff] using this

theorem Sim.own_ne_nil {t t' : Tree} (h : Sim σ t t') (hne : t.own ≠ []) : t'.own ≠ [] :=
  fun e => hne (by simpa [e] using h.own)

theorem SimL.ownL {l l' : List Tree} (h : SimL σ l l') : (ownL l').Perm ((ownL l).map σ) := by
  obtain ⟨m, f, pm⟩ := simL_iff.mp h
  refine (ownL_perm pm.symm).trans ?_
  clear pm h
  induction f with
  | nil => simp [P10.ownL]
  | cons h _ ih =>
    simp only [P10.ownL, List.flatMap_cons, List.map_append] at ih ⊢
    exact h.own.append ih

/-- What similarity says about corresponding structures (regions, parent relation, counts) is read
off this one `SimL` of the lists of all structures. -/
theorem sim_pre :
    (∀ t t' : Tree, Sim σ t t' → SimL σ (pre t) (pre t')) ∧
    (∀ l l' : List Tree, SimL σ l l' → SimL σ (preL l) (preL l')) := by
  apply Tree.forest_induction
  · intro i o ks ih t' h
    cases h with
    | mk h1 h2 => exact .cons (.mk h1 h2) (ih _ h2) (List.Perm.refl _)
  · intro l' h; cases h; exact .nil
  · intro t ts iht ihts l' h
    cases h with
    | cons h1 h2 h3 => exact ((iht _ h1).append (ihts _ h2)).perm_right (preL_perm h3).symm

theorem SimL.preL {f f' : List Tree} (h : SimL σ f f') : SimL σ (Tree.preL f) (Tree.preL f') :=
  sim_pre.2 f f' h

theorem Sim.pixels {t t' : Tree} (h : Sim σ t t') : t'.pixels.Perm (t.pixels.map σ) := by
  rw [pixels_eq_own, pixels_eq_own]; exact (sim_pre.1 t t' h).ownL

theorem SimL.pixelsL {l l' : List Tree} (h : SimL σ l l') :
    (Tree.pixelsL l').Perm ((Tree.pixelsL l).map σ) := by
  rw [pixelsL_eq_own, pixelsL_eq_own]; exact h.preL.ownL

/-! `symm`, `trans`: each is an induction on the tree whose step for the children is the corresponding fact about `PR`. -/

variable {τ : Nat → Nat}

theorem Sim.symm (hinv : ∀ x, τ (σ x) = x) {t t' : Tree} (h : Sim σ t t') : Sim τ t' t := by
  induction t using Tree.ind generalizing t' with
  | _ i o ks ih =>
    refine .of ?_ (simL_iff.mpr ((simL_iff.mp h.kids).flip fun k hk _ => ih k hk))
    simpa [Function.comp_def, hinv] using (h.own.map τ).symm

theorem SimL.symm (hinv : ∀ x, τ (σ x) = x) {l l' : List Tree} (h : SimL σ l l') : SimL τ l' l :=
  simL_iff.mpr ((simL_iff.mp h).flip fun _ _ _ => Sim.symm hinv)

theorem Sim.trans {t t' t'' : Tree} (h1 : Sim σ t t') (h2 : Sim τ t' t'') : Sim (τ ∘ σ) t t'' := by
  induction t using Tree.ind generalizing t' t'' with
  | _ i o ks ih =>
    refine .of ?_ (simL_iff.mpr ((simL_iff.mp h1.kids).trans (simL_iff.mp h2.kids) fun k hk _ _ => ih k hk))
    simpa using h2.own.trans (h1.own.map τ)

theorem SimL.trans {l l' l'' : List Tree} (h1 : SimL σ l l') (h2 : SimL τ l' l'') :
    SimL (τ ∘ σ) l l'' :=
  simL_iff.mpr ((simL_iff.mp h1).trans (simL_iff.mp h2) fun _ _ _ _ => Sim.trans)

end SimBasics

end P10

namespace P18
open Tree
open P10 (Sim SimL PR F2 ownL)

abbrev Sm (t t' : Tree) : Prop := Sim (fun p => p) t t'
abbrev SmL (l l' : List Tree) : Prop := SimL (fun p => p) l l'

theorem Sm.own' {t t' : Tree} (h : Sm t t') : t'.own.Perm t.own := by
  have := P10.Sim.own h; rwa [List.map_id'] at this

theorem Sm.pixels' {t t' : Tree} (h : Sm t t') : t'.pixels.Perm t.pixels := by
  have := P10.Sim.pixels h; rwa [List.map_id'] at this

theorem SmL.pixelsL' {l l' : List Tree} (h : SmL l l') : (pixelsL l').Perm (pixelsL l) := by
  have := P10.SimL.pixelsL h; rwa [List.map_id'] at this

theorem Sm.of' {t t' : Tree} (h1 : t'.own.Perm t.own) (h2 : SmL t.kids t'.kids) : Sm t t' :=
  P10.Sim.of (by rwa [List.map_id']) h2

theorem Sm.refl (t : Tree) : Sm t t := by
  induction t using Tree.ind with
  | _ i o ks ih => exact Sm.of' (.refl _) (P10.simL_iff.mpr (PR.refl ih))

theorem SmL.refl (l : List Tree) : SmL l l := P10.simL_iff.mpr (PR.refl fun t _ => Sm.refl t)

theorem SmL.map {f : Tree → Tree} {l : List Tree} (h : ∀ k ∈ l, Sm k (f k)) : SmL l (l.map f) := by
  induction l with
  | nil => exact .nil
  | cons k ks ih =>
    exact .cons (h k (by simp)) (ih (fun x hx => h x (List.mem_cons_of_mem _ hx))) (List.Perm.refl _)

theorem SmL.of_perm {l l' : List Tree} (h : l.Perm l') : SmL l l' :=
  (SmL.refl l).perm_right h

theorem Sm.symm {t t' : Tree} (h : Sm t t') : Sm t' t := P10.Sim.symm (fun _ => rfl) h
theorem SmL.symm {l l' : List Tree} (h : SmL l l') : SmL l' l := P10.SimL.symm (fun _ => rfl) h

theorem Sm.trans {t t' t'' : Tree} (h1 : Sm t t') (h2 : Sm t' t'') : Sm t t'' := P10.Sim.trans h1 h2
theorem SmL.trans {l l' l'' : List Tree} (h1 : SmL l l') (h2 : SmL l' l'') : SmL l l'' :=
  P10.SimL.trans h1 h2

theorem Sm.kids_nil {t t' : Tree} (h : Sm t t') : t.kids = [] ↔ t'.kids = [] :=
  (P10.Sim.kids h).nil_iff

theorem f2_trans {α : Type} {R : α → α → Prop} {l m k : List α} (h1 : F2 R l m) (h2 : F2 R m k)
    (htr : ∀ x ∈ l, ∀ y z, R x y → R y z → R x z) : F2 R l k := h1.trans h2 htr

theorem pr_flip {α β : Type} {R : α → β → Prop} {S : β → α → Prop} {l : List α} {l' : List β}
    (h : PR R l l') (hrs : ∀ x ∈ l, ∀ y, R x y → S y x) : PR S l' l := h.flip hrs

/-- own pixels gained -/
def XG (bad : Tree → Bool) (cs : List Tree) : List Nat :=
  ownL (cs.filter bad) ++
    (if (cs.filter (fun c => !bad c)).length ≤ 1 then ownL (cs.filter (fun c => !bad c)) else [])

/-- children left -/
def YG (bad : Tree → Bool) (cs : List Tree) : List Tree :=
  if (cs.filter (fun c => !bad c)).length ≤ 1 then (cs.filter (fun c => !bad c)).flatMap Tree.kids
  else cs.filter (fun c => !bad c)

/-- the node `i` with own pixels `o` and children `cs` after the bad children have been absorbed
and, if at most one child is left, that child dissolved too (its children are taken over) -/
def finishG (bad : Tree → Bool) (i : Nat) (o : List Nat) (cs : List Tree) : Tree :=
  node i (o ++ XG bad cs) (YG bad cs)

/-- `R` is finer than similarity; in the uses: similar and same identifier, `Sim σ`, `Eq` -/
theorem finishG_simR {σ : Nat → Nat} {R : Tree → Tree → Prop} (hR : ∀ c c', R c c' → Sim σ c c')
    {bad bad' : Tree → Bool} {i i' : Nat} {o o' : List Nat} {cs cs' : List Tree}
    (ho : o'.Perm (o.map σ)) (hcs : PR R cs cs')
    (hb : ∀ c ∈ cs, ∀ c', R c c' → bad c = bad' c') :
    Sim σ (finishG bad i o cs) (finishG bad' i' o' cs') := by
  have hm : SimL σ (cs.filter bad) (cs'.filter bad') :=
    P10.simL_iff.mpr ((hcs.filter hb).mono hR)
  have hk : SimL σ (cs.filter (fun c => !bad c)) (cs'.filter (fun c => !bad' c)) :=
    P10.simL_iff.mpr ((hcs.filter (fun c hc c' h => by rw [hb c hc c' h])).mono hR)
  unfold finishG XG YG
  rw [← hk.length_eq]
  split
  next => exact .mk (by simpa using ho.append (hm.ownL.append hk.ownL)) hk.flatMap_kids
  next => exact .mk (by simpa using ho.append hm.ownL) hk

/-- **The receiving structure of one step is a finished node** over the adjacent roots, with the
`merge` test as badness: the insignificant leaves are absorbed, and a single significant root is
not put under a new structure but continues (as if dissolved into it).  Which root survives, and
in which order lists are concatenated, is not visible here. -/
theorem joinAdj_finishG (E : Env) (p : Nat) (A : List Tree) :
    Sm (joinAdj E p A) (finishG (insig E p) p [p] A) := by
  have hpart := ownL_perm (List.filter_append_perm (insig E p) A).symm
  rw [ownL_append] at hpart
  unfold finishG XG YG
  rcases joinAdj_cases E p A with ⟨t, hperm, he⟩ | ⟨rfl | h, _, he⟩
  · -- `t` grows: at most `t` itself is kept, and an insignificant `t` has no children
    have hk := keep_of_grow hperm
    have hle : (A.filter fun t => !insig E p t).length ≤ 1 := hk ▸ List.length_filter_le _ [t]
    rw [he, if_pos hle, if_pos hle]
    refine Sm.of' ((hpart.symm.cons p).trans
      (((ownL_perm hperm).cons p).trans List.perm_middle.symm)) ?_
    show SmL t.kids ((A.filter fun t => !insig E p t).flatMap Tree.kids)
    rw [hk]
    cases hi : insig E p t
    · simpa [hi] using SmL.refl t.kids
    · simpa [hi, ((insig_iff E p t).mp hi).1] using SimL.nil
  · exact Sm.refl (node p [p] [])
  · rw [he, if_neg (Nat.not_le_of_lt h), if_neg (Nat.not_le_of_lt h)]
    exact Sm.of' (by simp [Tree.own]) (SmL.refl _)

end P18

namespace P10

/-- What relates run 1 (`E`, `order`) and run 2 (`E'`, `order.map σ`); everything is restricted to
the pixels of `order`.  `indep` is only required for leaves that own at least one pixel (every
structure of a run does): for an empty own list `vmax` is the default `0` in both runs and an
affine value map would not commute with it. -/
structure Hyp (E E' : Env) (σ : Nat → Nat) (order : List Nat) : Prop where
  adj : ∀ p ∈ order, ∀ q ∈ order, (q ∈ E.nbrs p ↔ σ q ∈ E'.nbrs (σ p))
  mono : ∀ p ∈ order, ∀ q ∈ order, (E.val p ≤ E.val q ↔ E'.val (σ p) ≤ E'.val (σ q))
  indep : ∀ t t', Sim σ t t' → t.kids = [] → t.own ≠ [] → (∀ x ∈ t.pixels, x ∈ order) →
    ∀ p ∈ order, E.indep t p (E.val p) = E'.indep t' (σ p) (E'.val (σ p))

section Step
variable {E E' : Env} {σ : Nat → Nat} {order : List Nat}

theorem touches_sim (H : Hyp E E' σ order) {t t' : Tree} (h : Sim σ t t')
    (hpix : ∀ x ∈ t.pixels, x ∈ order) {p : Nat} (hp : p ∈ order) :
    touches E p t = touches E' (σ p) t' := by
  rw [Bool.eq_iff_iff, touches_iff, touches_iff]
  constructor
  · rintro ⟨q, hq, hn⟩
    exact ⟨σ q, h.pixels.symm.subset (List.mem_map_of_mem hq), (H.adj p hp q (hpix q hq)).mp hn⟩
  · rintro ⟨q', hq', hn⟩
    obtain ⟨q, hq, rfl⟩ := List.mem_map.mp (h.pixels.subset hq')
    exact ⟨q, hq, (H.adj p hp q (hpix q hq)).mpr hn⟩

theorem vmax_sim_val {val val' : Nat → Int}
    (hmono : ∀ p ∈ order, ∀ q ∈ order, (val p ≤ val q ↔ val' (σ p) ≤ val' (σ q)))
    {t t' : Tree} (h : Sim σ t t') (hne : t.own ≠ []) (hown : ∀ x ∈ t.own, x ∈ order) :
    ∃ a ∈ t.own, t.vmax val = val a ∧ t'.vmax val' = val' (σ a) := by
  obtain ⟨a, ha, hv⟩ := vmax_attained val t hne
  refine ⟨a, ha, hv, ?_⟩
  obtain ⟨a', ha', hv'⟩ := vmax_attained val' t' (h.own_ne_nil hne)
  obtain ⟨c, hc, rfl⟩ := List.mem_map.mp (h.own.subset ha')
  have h1 : val c ≤ val a := hv ▸ le_vmax val t c hc
  have h2 : val' (σ c) ≤ val' (σ a) := (hmono c (hown c hc) a (hown a ha)).mp h1
  exact Int.le_antisymm (hv' ▸ h2)
    (le_vmax val' t' (σ a) (h.own.symm.subset (List.mem_map_of_mem ha)))

theorem vmax_test_sim (H : Hyp E E' σ order) {t t' : Tree} (h : Sim σ t t') (hne : t.own ≠ [])
    (hown : ∀ x ∈ t.own, x ∈ order) {p : Nat} (hp : p ∈ order) :
    (t.vmax E.val == E.val p) = (t'.vmax E'.val == E'.val (σ p)) := by
  obtain ⟨a, ha, hv, hv'⟩ := vmax_sim_val H.mono h hne hown
  rw [hv, hv', Bool.eq_iff_iff, beq_iff_eq, beq_iff_eq, Int.le_antisymm_iff, Int.le_antisymm_iff,
    H.mono a (hown a ha) p hp, H.mono p hp a (hown a ha)]

theorem insig_sim (H : Hyp E E' σ order) {t t' : Tree} (h : Sim σ t t') (hne : t.own ≠ [])
    (hpix : ∀ x ∈ t.pixels, x ∈ order) {p : Nat} (hp : p ∈ order) :
    insig E p t = insig E' (σ p) t' := by
  unfold insig
  rw [← h.isLeaf]
  cases hl : t.isLeaf with
  | false => rfl
  | true =>
    have hk : t.kids = [] := by simpa [Tree.isLeaf, List.isEmpty_iff] using hl
    rw [vmax_test_sim H h hne (fun x hx => hpix x (own_pixels_sub t hx)) hp,
      H.indep t t' h hk hne hpix p hp]

end Step

section Run
variable {E E' : Env} {σ : Nat → Nat} {order : List Nat}

theorem joinAdj_sim {A A' : List Tree} {p : Nat} (hA : SimL σ A A')
    (hins : ∀ t ∈ A, ∀ t', Sim σ t t' → insig E p t = insig E' (σ p) t') :
    Sim σ (joinAdj E p A) (joinAdj E' (σ p) A') := by
  have h := (P18.finishG_simR (i := p) (i' := σ p) (o := [p]) (fun _ _ h => h) (.refl [σ p])
    (simL_iff.mp hA) hins).trans (P18.joinAdj_finishG E' (σ p) A').symm
  exact Sim.trans (P18.joinAdj_finishG E p A) h

/-- One step of two runs whose roots are related one to one, with the relation left open: `Sim σ`
in `step_sim`, similarity after collapsing in PruneOrigProofs. -/
theorem step_pr {R : Tree → Tree → Prop} {E E' : Env} {p p' : Nat} {roots roots' : List Tree}
    (hR : PR R roots roots')
    (ht : ∀ t ∈ roots, ∀ t', R t t' → touches E p t = touches E' p' t')
    (hj : ∀ {A A'}, PR R A A' → (∀ t ∈ A, t ∈ roots) → R (joinAdj E p A) (joinAdj E' p' A')) :
    PR R (step E roots p) (step E' roots' p') := by
  unfold step
  refine (hR.filter fun t h t' h' => by rw [ht t h t' h']).append (.single (hj ?_ fun t h => (mem_adjacent.mp h).1))
  exact ((hR.filter ht).perm_left (sortById_perm _).symm).perm_right (sortById_perm _).symm

/-- `p` need not be fresh. -/
theorem step_sim (H : Hyp E E' σ order) {roots roots' : List Tree} (hs : SimL σ roots roots')
    (hpix : ∀ x ∈ pixelsL roots, x ∈ order) (hne : ∀ t ∈ roots, t.own ≠ []) {p : Nat}
    (hp : p ∈ order) : SimL σ (step E roots p) (step E' roots' (σ p)) := by
  have hpt : ∀ t ∈ roots, ∀ x ∈ t.pixels, x ∈ order :=
    fun t ht x hx => hpix x (mem_pixelsL.mpr ⟨t, ht, hx⟩)
  refine simL_iff.mpr (step_pr (simL_iff.mp hs) (fun t ht t' h => touches_sim H h (hpt t ht) hp)
    fun hA hsub => joinAdj_sim (simL_iff.mpr hA) fun t ht t' h => ?_)
  exact insig_sim H h (hne t (hsub t ht)) (hpt t (hsub t ht)) hp

/-- `C16_run_equivariant`.  `order` need not be duplicate-free or sorted, and `σ` need not be injective. -/
theorem run_sim_of_hyp (H : Hyp E E' σ order) : SimL σ (run E order) (run E' (order.map σ)) :=
  run_prefix_induction E order (fun pre roots => SimL σ roots (run E' (pre.map σ))) .nil
    fun pre p suf ho ih => by
      rw [List.map_append, List.map_singleton, run_snoc]
      exact step_sim H ih (fun x hx => ho ▸ List.mem_append_left _ ((mem_run_pixels E pre x).mp hx))
        (fun t ht => run_own_nonempty E pre t (mem_preL_of_mem ht)) (ho ▸ by simp)

end Run

/-- `run_sim_of_hyp` with the fields of `Hyp` as separate hypotheses.  `_hnd` and `_hinj` are not used: they hold in
every instance and make `σ` a bijection between the two pixel sets. -/
theorem run_sim (E E' : Env) (σ : Nat → Nat) (order : List Nat)
    (_hnd : order.Nodup)
    (_hinj : ∀ a ∈ order, ∀ b ∈ order, σ a = σ b → a = b)
    (hadj : ∀ p ∈ order, ∀ q ∈ order, (q ∈ E.nbrs p ↔ σ q ∈ E'.nbrs (σ p)))
    (hmono : ∀ p ∈ order, ∀ q ∈ order, (E.val p ≤ E.val q ↔ E'.val (σ p) ≤ E'.val (σ q)))
    (hindep : ∀ t t', Sim σ t t' → t.kids = [] → t.own ≠ [] → (∀ x ∈ t.pixels, x ∈ order) →
      ∀ p ∈ order, E.indep t p (E.val p) = E'.indep t' (σ p) (E'.val (σ p))) :
    SimL σ (run E order) (run E' (order.map σ)) :=
  run_sim_of_hyp ⟨hadj, hmono, hindep⟩

theorem run_sim_prefix (E E' : Env) (σ : Nat → Nat) (order pre suf : List Nat) (ho : order = pre ++ suf)
    (hadj : ∀ p ∈ order, ∀ q ∈ order, (q ∈ E.nbrs p ↔ σ q ∈ E'.nbrs (σ p)))
    (hmono : ∀ p ∈ order, ∀ q ∈ order, (E.val p ≤ E.val q ↔ E'.val (σ p) ≤ E'.val (σ q)))
    (hindep : ∀ t t', Sim σ t t' → t.kids = [] → t.own ≠ [] → (∀ x ∈ t.pixels, x ∈ order) →
      ∀ p ∈ order, E.indep t p (E.val p) = E'.indep t' (σ p) (E'.val (σ p))) :
    SimL σ (run E pre) (run E' (pre.map σ)) := by
  have hsub : ∀ x ∈ pre, x ∈ order := fun x hx => by rw [ho]; exact List.mem_append_left _ hx
  exact run_sim_of_hyp (order := pre)
    ⟨fun p hp q hq => hadj p (hsub p hp) q (hsub q hq),
     fun p hp q hq => hmono p (hsub p hp) q (hsub q hq),
     fun t t' h hk hne hpix p hp => hindep t t' h hk hne (fun x hx => hsub x (hpix x hx)) p (hsub p hp)⟩

section Corollaries
variable {σ : Nat → Nat}

theorem sim_nodes {f f' : List Tree} (h : SimL σ f f') :
    (∀ t ∈ Tree.preL f, ∃ t' ∈ Tree.preL f', Sim σ t t') ∧
    (∀ t' ∈ Tree.preL f', ∃ t ∈ Tree.preL f, Sim σ t t') := ⟨h.preL.mem_left, h.preL.mem_right⟩

/-- own pixels correspond, hence so does the label map, up to naming -/
theorem sim_own {f f' : List Tree} (h : SimL σ f f') :
    (∀ t ∈ Tree.preL f, ∃ t' ∈ Tree.preL f', t'.pixels.Perm (t.pixels.map σ) ∧ t'.own.Perm (t.own.map σ)) ∧
    (∀ t' ∈ Tree.preL f', ∃ t ∈ Tree.preL f, t'.pixels.Perm (t.pixels.map σ) ∧ t'.own.Perm (t.own.map σ)) := by
  obtain ⟨h1, h2⟩ := sim_nodes h
  constructor
  · intro t ht; obtain ⟨t', ht', hs⟩ := h1 t ht; exact ⟨t', ht', hs.pixels, hs.own⟩
  · intro t' ht'; obtain ⟨t, ht, hs⟩ := h2 t' ht'; exact ⟨t, ht, hs.pixels, hs.own⟩

end Corollaries

section Builtin

/-- the criterion of run 2 under `v ↦ a*v+b` and renaming `σ`: `min_delta` scales by `a`,
`min_npix` is kept, `min_peak` is mapped like a value, seeds are renamed (`min_sum` is not
expressible: the sum is mapped to `a*s + b*npix`; it is excluded by hypothesis) -/
def critAffine (σ : Nat → Nat) (a b : Int) : Crit → Crit
  | .minDelta d => .minDelta (a * d)
  | .minNpix n => .minNpix n
  | .minPeak x => .minPeak (a * x + b)
  | .minSum s => .minSum s
  | .seeds ps => .seeds (ps.map σ)

def critRename (σ : Nat → Nat) : Crit → Crit
  | .seeds ps => .seeds (ps.map σ)
  | c => c

/-- the seed pixels of `contains_seeds`: what `σ` must not identify with other ordered pixels -/
def seedsOf : Crit → List Nat
  | .seeds ps => ps
  | _ => []

variable {σ : Nat → Nat} {order : List Nat} {val val' : Nat → Int}

theorem seeds_sim {t t' : Tree} (h : Sim σ t t') (hpix : ∀ x ∈ t.pixels, x ∈ order) (ps : List Nat)
    (hseed : ∀ s ∈ ps, ∀ x ∈ order, σ x = σ s → x = s) :
    t.pixels.any (fun p => ps.contains p) = t'.pixels.any (fun p => (ps.map σ).contains p) := by
  rw [Bool.eq_iff_iff, List.any_eq_true, List.any_eq_true]
  simp only [List.contains_iff_mem]
  constructor
  · rintro ⟨x, hx, hxs⟩
    exact ⟨σ x, h.pixels.symm.subset (List.mem_map_of_mem hx), List.mem_map_of_mem hxs⟩
  · rintro ⟨y, hy, hys⟩
    obtain ⟨x, hx, rfl⟩ := List.mem_map.mp (h.pixels.subset hy)
    obtain ⟨s, hs, e⟩ := List.mem_map.mp hys
    have : x = s := hseed s hs x (hpix x hx) e.symm
    exact ⟨x, hx, this ▸ hs⟩

theorem affine_mono {a b : Int} (ha : 0 < a) (hval : ∀ p ∈ order, val' (σ p) = a * val p + b) :
    ∀ p ∈ order, ∀ q ∈ order, (val p ≤ val q ↔ val' (σ p) ≤ val' (σ q)) := by
  intro p hp q hq
  rw [hval p hp, hval q hq, Int.add_le_add_iff_right, Int.mul_le_mul_left ha]

theorem vmax_affine {a b : Int} (ha : 0 < a) (hval : ∀ p ∈ order, val' (σ p) = a * val p + b)
    {t t' : Tree} (h : Sim σ t t') (hne : t.own ≠ []) (hown : ∀ x ∈ t.own, x ∈ order) :
    t'.vmax val' = a * t.vmax val + b := by
  obtain ⟨x, hx, h1, h2⟩ := vmax_sim_val (affine_mono ha hval) h hne hown
  rw [h1, h2, hval x (hown x hx)]

theorem atMerge_affine {a b : Int} (ha : 0 < a) (hval : ∀ p ∈ order, val' (σ p) = a * val p + b)
    {t t' : Tree} (h : Sim σ t t') (hne : t.own ≠ []) (hpix : ∀ x ∈ t.pixels, x ∈ order)
    {p : Nat} (hp : p ∈ order) (c : Crit) (hns : ∀ s, c ≠ Crit.minSum s)
    (hseed : ∀ s ∈ seedsOf c, ∀ x ∈ order, σ x = σ s → x = s) :
    c.atMerge val t (val p) = (critAffine σ a b c).atMerge val' t' (val' (σ p)) := by
  have hv := vmax_affine ha hval h hne (fun x hx => hpix x (own_pixels_sub t hx))
  cases c with
  | minDelta d =>
    simp only [critAffine, Crit.atMerge, hv, hval p hp, decide_eq_decide]
    rw [Int.add_sub_add_right, ← Int.mul_sub, Int.mul_le_mul_left ha]
  | minNpix n =>
    simp only [critAffine, Crit.atMerge, decide_eq_decide]
    rw [h.pixels.length_eq, List.length_map]
  | minPeak x =>
    simp only [critAffine, Crit.atMerge, hv, decide_eq_decide]
    rw [Int.add_le_add_iff_right, Int.mul_le_mul_left ha]
  | minSum s => exact absurd rfl (hns s)
  | seeds ps => exact seeds_sim h hpix ps hseed

/-- **built-in criteria, affine value map** `v ↦ a*v+b`, `a > 0`, with renaming `σ`: the field `indep` of `Hyp`.
`min_sum` is excluded; seeds must not be identified with ordered pixels by `σ` (e.g. `σ` injective on the array).

The premise `t.own ≠ []` cannot be dropped: for `t = t' = node 0 [] []` (similar for every `σ`),
`val = fun _ => 0`, `val' = fun _ => 5` (`a = 1`, `b = 5`) and `min_delta = 0` the peak defaults to
`0` in both environments and the decisions are `0 ≤ 0 - 0` (true) and `0 ≤ 0 - 5` (false). -/
theorem hindep_builtin_affine (val val' : Nat → Int) (nbrs nbrs' : Nat → List Nat) (σ : Nat → Nat)
    (order : List Nat) (a b : Int) (ha : 0 < a)
    (hval : ∀ p ∈ order, val' (σ p) = a * val p + b)
    (cs : List Crit) (hns : ∀ c ∈ cs, ∀ s, c ≠ Crit.minSum s)
    (hseed : ∀ c ∈ cs, ∀ s ∈ seedsOf c, ∀ x ∈ order, σ x = σ s → x = s) :
    ∀ t t', Sim σ t t' → t.kids = [] → t.own ≠ [] → (∀ x ∈ t.pixels, x ∈ order) → ∀ p ∈ order,
      (envOf val nbrs cs).indep t p ((envOf val nbrs cs).val p) =
      (envOf val' nbrs' (cs.map (critAffine σ a b))).indep t' (σ p)
        ((envOf val' nbrs' (cs.map (critAffine σ a b))).val (σ p)) := by
  intro t t' h _ hne hpix p hp
  simp only [envOf, allMerge, List.all_map]
  apply List.all_congr_mem
  intro c hc
  exact atMerge_affine ha hval h hne hpix hp c (hns c hc) (hseed c hc)

theorem hindep_builtin_affine_delta_npix (val val' : Nat → Int) (nbrs nbrs' : Nat → List Nat)
    (σ : Nat → Nat) (order : List Nat) (a b : Int) (ha : 0 < a)
    (hval : ∀ p ∈ order, val' (σ p) = a * val p + b) (d : Int) (n : Nat) :
    ∀ t t', Sim σ t t' → t.kids = [] → t.own ≠ [] → (∀ x ∈ t.pixels, x ∈ order) → ∀ p ∈ order,
      (envOf val nbrs [Crit.minDelta d, Crit.minNpix n]).indep t p (val p) =
      (envOf val' nbrs' [Crit.minDelta (a * d), Crit.minNpix n]).indep t' (σ p) (val' (σ p)) :=
  hindep_builtin_affine val val' nbrs nbrs' σ order a b ha hval [Crit.minDelta d, Crit.minNpix n]
    (by rintro c hc s rfl; simp at hc)
    (by intro c hc s hs; simp at hc; rcases hc with rfl | rfl <;> cases hs)

theorem sumVals_sim (hval : ∀ p ∈ order, val' (σ p) = val p) {t t' : Tree} (h : Sim σ t t')
    (hpix : ∀ x ∈ t.pixels, x ∈ order) : sumVals val' t'.pixels = sumVals val t.pixels := by
  unfold sumVals
  rw [(h.pixels.map val').foldl_eq' (fun _ _ _ _ _ => Int.add_right_comm ..) 0, List.map_map]
  congr 1
  apply List.map_congr_left
  intro x hx
  exact hval x (hpix x hx)

/-- **built-in criteria, pure renaming** (`a = 1`, `b = 0`: axis permutations, flips, shifts,
padding): all five criteria, seeds renamed. -/
theorem hindep_builtin_rename (val val' : Nat → Int) (nbrs nbrs' : Nat → List Nat) (σ : Nat → Nat)
    (order : List Nat) (hval : ∀ p ∈ order, val' (σ p) = val p)
    (cs : List Crit)
    (hseed : ∀ c ∈ cs, ∀ s ∈ seedsOf c, ∀ x ∈ order, σ x = σ s → x = s) :
    ∀ t t', Sim σ t t' → t.kids = [] → t.own ≠ [] → (∀ x ∈ t.pixels, x ∈ order) → ∀ p ∈ order,
      (envOf val nbrs cs).indep t p ((envOf val nbrs cs).val p) =
      (envOf val' nbrs' (cs.map (critRename σ))).indep t' (σ p)
        ((envOf val' nbrs' (cs.map (critRename σ))).val (σ p)) := by
  intro t t' h _ hne hpix p hp
  simp only [envOf, allMerge, List.all_map]
  apply List.all_congr_mem
  intro c hc
  have hval' : ∀ p ∈ order, val' (σ p) = 1 * val p + 0 := by
    intro p hp; rw [hval p hp, Int.one_mul, Int.add_zero]
  by_cases hs : ∃ s, c = Crit.minSum s
  · obtain ⟨s, rfl⟩ := hs
    simp only [Function.comp, critRename, Crit.atMerge, sumVals_sim hval h hpix]
  · -- with `a = 1`, `b = 0` the affine image of a criterion is its renaming
    have e : critAffine σ 1 0 c = critRename σ c := by cases c <;> simp [critAffine, critRename]
    rw [atMerge_affine (a := 1) (b := 0) Int.one_pos hval' h hne hpix hp c (fun s e => hs ⟨s, e⟩) (hseed c hc), e]
    rfl

theorem run_sim_builtin_affine (val val' : Nat → Int) (nbrs nbrs' : Nat → List Nat) (σ : Nat → Nat)
    (order : List Nat) (a b : Int) (ha : 0 < a)
    (hval : ∀ p ∈ order, val' (σ p) = a * val p + b)
    (hadj : ∀ p ∈ order, ∀ q ∈ order, (q ∈ nbrs p ↔ σ q ∈ nbrs' (σ p)))
    (cs : List Crit) (hns : ∀ c ∈ cs, ∀ s, c ≠ Crit.minSum s)
    (hseed : ∀ c ∈ cs, ∀ s ∈ seedsOf c, ∀ x ∈ order, σ x = σ s → x = s) :
    SimL σ (run (envOf val nbrs cs) order)
      (run (envOf val' nbrs' (cs.map (critAffine σ a b))) (order.map σ)) :=
  run_sim_of_hyp ⟨hadj, affine_mono ha hval,
    hindep_builtin_affine val val' nbrs nbrs' σ order a b ha hval cs hns hseed⟩

theorem run_sim_builtin_rename (val val' : Nat → Int) (nbrs nbrs' : Nat → List Nat) (σ : Nat → Nat)
    (order : List Nat) (hval : ∀ p ∈ order, val' (σ p) = val p)
    (hadj : ∀ p ∈ order, ∀ q ∈ order, (q ∈ nbrs p ↔ σ q ∈ nbrs' (σ p)))
    (cs : List Crit)
    (hseed : ∀ c ∈ cs, ∀ s ∈ seedsOf c, ∀ x ∈ order, σ x = σ s → x = s) :
    SimL σ (run (envOf val nbrs cs) order)
      (run (envOf val' nbrs' (cs.map (critRename σ))) (order.map σ)) := by
  apply run_sim_of_hyp
  refine ⟨hadj, ?_, hindep_builtin_rename val val' nbrs nbrs' σ order hval cs hseed⟩
  intro p hp q hq
  show val p ≤ val q ↔ val' (σ p) ≤ val' (σ q)
  rw [hval p hp, hval q hq]

end Builtin

/-! ## witness: a flipped, rescaled 1-D array with a tie

values `3 1 3 1 2`, flipped (`σ p = 4 - p`) and mapped by `v ↦ 2*v+7`; `min_delta` 1 resp. 2.
Run 1 gives `3:[3]( 1:[1]( 0:[0], 2:[2] ), 4:[4] )`, run 2 gives `1:[1]( 0:[0], 3:[3]( 2:[2], 4:[4] ) )`:
identifiers and child order differ, the hierarchy is the same up to the flip. -/
section Witness

private def wNbrs (p : Nat) : List Nat :=
  (if p + 1 < 5 then [p + 1] else []) ++ (if 0 < p ∧ p < 5 then [p - 1] else [])
private def wVal (p : Nat) : Int := [3, 1, 3, 1, 2].getD p 0

example : SimL (fun p => 4 - p)
    (run (envOf wVal wNbrs [Crit.minDelta 1]) [0, 2, 4, 1, 3])
    (run (envOf (fun p => 2 * wVal (4 - p) + 7) wNbrs [Crit.minDelta (2 * 1)]) [4, 2, 0, 3, 1]) :=
  run_sim_builtin_affine wVal (fun p => 2 * wVal (4 - p) + 7) wNbrs wNbrs (fun p => 4 - p)
    [0, 2, 4, 1, 3] 2 7 (by decide) (by decide) (by decide) [Crit.minDelta 1]
    (by rintro c hc s rfl; simp at hc)
    (by intro c hc s hs; simp at hc; subst hc; cases hs)

end Witness

end P10
