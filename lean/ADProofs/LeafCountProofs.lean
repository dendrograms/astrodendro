import ADProofs.MaximaProofs
/-!
# The number of leaves does not depend on the admissible processing order (C16 / C17, ties clause)

Setting as in `ADProofs/MaximaProofs.lean`: symmetric adjacency, no pruning, pixels processed in non-increasing order of
value, ties in ANY order.  Two admissible orders of the same pixel set may give different forests (a pixel tied with the
meeting value may end up in a leaf or in the branch), but the leaves of both are in bijection with the regional-maximum
plateaus, which depend on the SET of processed pixels only.
-/
open Tree

namespace P34

def leavesOf (f : List Tree) : List Tree := (Tree.preL f).filter Tree.isLeaf

theorem mem_leavesOf {f : List Tree} {t : Tree} :
    t ∈ leavesOf f ↔ t ∈ Tree.preL f ∧ t.kids = [] := by
  unfold leavesOf; rw [List.mem_filter, isLeaf_iff]

theorem leavesOf_run_nodup (E : Env) (order : List Nat) (hnd : order.Nodup) :
    (leavesOf (run E order)).Nodup :=
  List.Pairwise.filter _
    ((run_ids_nodup E order hnd).of_map Tree.id fun _ _ hne e => hne (congrArg Tree.id e))

/-- one direction of `leaf_count_order_independent`: leaf of run 1 ↦ the leaf of run 2 that owns one of its peak
pixels as a peak pixel; total (`leaf_peak_regmax`, `regmax_has_leaf`) and injective
(`leaf_peak_one_plateau` in run 2, `leaves_distinct_maxima` in run 1) -/
theorem leaf_count_le (E : Env) (hsym : ∀ x y, y ∈ E.nbrs x → x ∈ E.nbrs y)
    (hno : ∀ t p v, E.indep t p v = true) (o₁ o₂ : List Nat) (hmem : ∀ x, x ∈ o₁ ↔ x ∈ o₂)
    (hnd₁ : o₁.Nodup)
    (hs₁ : o₁.Pairwise (fun a b => E.val b ≤ E.val a))
    (hs₂ : o₂.Pairwise (fun a b => E.val b ≤ E.val a)) :
    (leavesOf (run E o₁)).length ≤ (leavesOf (run E o₂)).length := by
  apply List.length_le_of_rel (fun t₁ t₂ : Tree =>
    ∃ p, p ∈ t₁.own ∧ E.val p = t₁.vmax E.val ∧ p ∈ t₂.own ∧ E.val p = t₂.vmax E.val)
  · exact leavesOf_run_nodup E o₁ hnd₁
  · intro t₁ ht₁
    obtain ⟨hpre, hl⟩ := mem_leavesOf.mp ht₁
    obtain ⟨p, hp, hv⟩ := vmax_attained E.val t₁ (run_own_nonempty E o₁ t₁ hpre)
    have hR := P20.leaf_peak_regmax E hsym o₁ hs₁ t₁ hpre hl p hp hv.symm
    obtain ⟨t₂, ht₂, hl₂, hp₂, hv₂⟩ := P20.regmax_has_leaf E hsym o₂ hs₂ hno p
      (P20.regMax_anti (fun x => (hmem x).mpr) ((hmem p).mp hR.1) hR)
    exact ⟨t₂, mem_leavesOf.mpr ⟨ht₂, hl₂⟩, p, hp, hv.symm, hp₂, hv₂⟩
  · rintro a ha a' ha' b hb ⟨p, hpa, hva, hpb, hvb⟩ ⟨q, hqa', hva', hqb, hvb'⟩
    obtain ⟨hpre, hl⟩ := mem_leavesOf.mp ha
    obtain ⟨hpre', hl'⟩ := mem_leavesOf.mp ha'
    obtain ⟨hpreb, hlb⟩ := mem_leavesOf.mp hb
    have hsp : P20.SamePlateau E o₁ p q := P20.samePlateau_mono (fun x => (hmem x).mpr)
      (P20.leaf_peak_one_plateau E hsym o₂ hs₂ hno b hpreb hlb p hpb q hqb hvb hvb')
    exact Classical.byContradiction fun hab =>
      P20.leaves_distinct_maxima E hsym o₁ hs₁ hnd₁ a hpre a' hpre' hl hab p hpa q hqa' hva hsp

/-- `C17_leaf_count_order_independent` -/
theorem leaf_count_order_independent (E : Env) (hsym : ∀ x y, y ∈ E.nbrs x → x ∈ E.nbrs y)
    (hno : ∀ t p v, E.indep t p v = true) (o₁ o₂ : List Nat) (hperm : o₁.Perm o₂)
    (hnd : o₁.Nodup)
    (hs₁ : o₁.Pairwise (fun a b => E.val b ≤ E.val a))
    (hs₂ : o₂.Pairwise (fun a b => E.val b ≤ E.val a)) :
    (leavesOf (run E o₁)).length = (leavesOf (run E o₂)).length :=
  Nat.le_antisymm
    (leaf_count_le E hsym hno o₁ o₂ (fun _ => hperm.mem_iff) hnd hs₁ hs₂)
    (leaf_count_le E hsym hno o₂ o₁ (fun _ => hperm.mem_iff.symm) (hperm.nodup_iff.mp hnd) hs₂ hs₁)

section Witness

private def wNbrs (p : Nat) : List Nat :=
  (if p + 1 < 5 then [p + 1] else []) ++ (if 0 < p ∧ p < 5 then [p - 1] else [])
private def wVal (p : Nat) : Int := [1, 3, 3, 1, 2].getD p 0
private def wE : Env := ⟨wVal, wNbrs, fun _ _ _ => true, fun _ => true⟩

/-- `Tree` has no decidable equality: the forests are compared by their own lists, prefix order -/
private def owns (f : List Tree) : List (List Nat) := (Tree.preL f).map Tree.own

-- values `1 3 3 1 2`: pixels 1, 2 form a plateau of two equal maxima, pixels 0, 3 tie at the
-- meeting value.  Both orders are admissible orders of the same pixels,
example : [1, 2, 4, 0, 3].Perm [2, 1, 4, 3, 0] ∧ [1, 2, 4, 0, 3].Nodup ∧
    [1, 2, 4, 0, 3].Pairwise (fun a b => wE.val b ≤ wE.val a) ∧
    [2, 1, 4, 3, 0].Pairwise (fun a b => wE.val b ≤ wE.val a) := by decide +kernel
-- adjacency is symmetric (on the pixels that have neighbours at all),
example : ∀ x < 6, ∀ y ∈ wE.nbrs x, x ∈ wE.nbrs y := by decide +kernel
-- the forests differ (pixel 0 is owned by the leaf in run 1, by the branch in run 2),
example : owns (run wE [1, 2, 4, 0, 3]) = [[3], [1, 2, 0], [4]] ∧
    owns (run wE [2, 1, 4, 3, 0]) = [[3, 0], [2, 1], [4]] := by decide +kernel
-- and the number of leaves is the same.
example : (leavesOf (run wE [1, 2, 4, 0, 3])).length = 2 ∧
    (leavesOf (run wE [2, 1, 4, 3, 0])).length = 2 := by decide +kernel

end Witness

end P34
