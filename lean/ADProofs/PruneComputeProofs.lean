import ADModel.Grid
import ADProofs.Forest
import ADProofs.Contour
import ADModel.Prune
import ADProofs.SimProofs
/-!
# ADProofs.PruneComputeProofs — what "prune afterwards = compute with stricter parameters" (C08) rests on

Both sides of C08 are compared with a declarative collapse of the loose dendrogram, in which every
node is *finished*: `finishG bad i o cs` (defined in `ADProofs.SimProofs`) is node `i` after
absorbing its `bad` children and dissolving a single remaining child.  Here is the algebra of
`finishG` that `ADProofs.PruneOrigProofs` computes with, and what the proof of C08 needs of the run
(`run_branch_bright`) and of the post-hoc test (`allChild_leaf_eq`).

The proof of C08 does not go through `collapseL_sim` (`collapse n` is the collapse for
`min_npix = n` alone; the collapse of the proofs is `P28.collapse`, with levels),
`posthoc_eq_mergetime` or `delta_counterexample` (why a positive `min_delta` is excluded).
-/
open Tree

namespace P18

open P10 (Sim SimL PR F2 ownL)

theorem ownL_nil : ownL [] = [] := rfl

theorem finishG_sim {bad bad' : Tree → Bool} {i i' : Nat} {o o' : List Nat} {cs cs' : List Tree}
    (ho : o'.Perm o) (hcs : SmL cs cs')
    (hb : ∀ c ∈ cs, ∀ c', Sm c c' → bad c = bad' c') :
    Sm (finishG bad i o cs) (finishG bad' i' o' cs') :=
  finishG_simR (R := Sm) (fun _ _ h => h) (by simpa using ho) (P10.simL_iff.mp hcs) hb

theorem finishG_congr {b b' : Tree → Bool} (i : Nat) (o : List Nat) {cs : List Tree}
    (h : ∀ c ∈ cs, b c = b' c) : finishG b i o cs = finishG b' i o cs := by
  have h1 : cs.filter b = cs.filter b' := List.filter_congr h
  have h2 : cs.filter (fun c => !b c) = cs.filter (fun c => !b' c) :=
    List.filter_congr (fun c hc => by rw [h c hc])
  simp only [finishG, XG, YG, h1, h2]

theorem finishG_perm (b : Tree → Bool) (i : Nat) (o : List Nat) {cs cs' : List Tree}
    (h : cs.Perm cs') : Sm (finishG b i o cs) (finishG b i o cs') :=
  finishG_simR (R := Eq) (fun c _ e => e ▸ Sm.refl c) (by simp)
    ⟨cs, .refl cs fun _ _ => rfl, h⟩ (fun _ _ _ e => e ▸ rfl)

theorem finishG_own (b : Tree → Bool) (i i' : Nat) {o o' : List Nat} (cs : List Tree)
    (ho : o'.Perm o) : Sm (finishG b i o cs) (finishG b i' o' cs) :=
  finishG_simR (R := Eq) (fun c _ e => e ▸ Sm.refl c) (by simpa using ho)
    (P10.F2.refl cs fun _ _ => rfl).pr (fun _ _ _ e => e ▸ rfl)

theorem finishG_absorb (b : Tree → Bool) (i : Nat) (o : List Nat) (B K : List Tree)
    (hB : ∀ c ∈ B, b c = true) : finishG b i (o ++ ownL B) K = finishG b i o (B ++ K) := by
  have h1 : (B ++ K).filter b = B ++ K.filter b := by
    rw [List.filter_append, List.filter_eq_self.mpr hB]
  have h2 : (B ++ K).filter (fun c => !b c) = K.filter (fun c => !b c) := by
    rw [List.filter_append, List.filter_eq_nil_iff.mpr fun c hc => by simp [hB c hc], List.nil_append]
  simp only [finishG, XG, YG, h1, h2, ownL_append, List.append_assoc]

theorem finishG_nil (b : Tree → Bool) (i : Nat) (o : List Nat) : finishG b i o [] = node i o [] := by
  simp [finishG, XG, YG, ownL]

theorem finishG_none (b : Tree → Bool) (i : Nat) (o : List Nat) {cs : List Tree}
    (hb : ∀ c ∈ cs, b c = false) (hlen : cs.length ≠ 1) : finishG b i o cs = node i o cs := by
  have h1 : cs.filter b = [] := List.filter_eq_nil_iff.mpr fun c hc => by simp [hb c hc]
  have h2 : cs.filter (fun c => !b c) = cs := List.filter_eq_self.mpr fun c hc => by simp [hb c hc]
  cases cs with
  | nil => exact finishG_nil b i o
  | cons c cs =>
    have : ¬ (c :: cs).length ≤ 1 := by simp only [List.length_cons] at hlen ⊢; omega
    simp only [finishG, XG, YG, h1, h2, this, if_false, ownL_nil, List.append_nil]

theorem finishG_single (b : Tree → Bool) (i : Nat) (o : List Nat) (c : Tree)
    (hb : b c = true → c.kids = []) : finishG b i o [c] = node i (o ++ c.own) c.kids := by
  cases hc : b c with
  | true => simp [finishG, XG, YG, ownL, hc, hb hc]
  | false => simp [finishG, XG, YG, ownL, hc]

/-- dissolving a finished node into a parent `j` with own pixels `o'` -/
theorem finishG_dissolve (b : Tree → Bool) (i j : Nat) (o o' : List Nat) (cs : List Tree) :
    node j (o' ++ (finishG b i o cs).own) (finishG b i o cs).kids = finishG b j (o' ++ o) cs := by
  simp [finishG, List.append_assoc]

theorem pixelsL_le_one {K : List Tree} (hc : K.length ≤ 1) :
    ownL K ++ pixelsL (K.flatMap Tree.kids) = pixelsL K := by
  match K, hc with
  | [], _ => rfl
  | [t], _ => simp [ownL, pixelsL, pixels_eq t]

theorem finishG_pixels (b : Tree → Bool) (i : Nat) (o : List Nat) (cs : List Tree)
    (hb : ∀ c ∈ cs, b c = true → c.kids = []) :
    (finishG b i o cs).pixels.Perm (o ++ pixelsL cs) := by
  have hp := pixelsL_perm (List.filter_append_perm b cs).symm
  rw [pixelsL_append, pixelsL_leaves (ms := cs.filter b)
    (fun c hc => hb c (List.mem_filter.mp hc).1 (List.mem_filter.mp hc).2)] at hp
  refine List.Perm.trans ?_ (List.Perm.append_left o hp.symm)
  unfold finishG XG YG
  by_cases hc : (cs.filter (fun c => !b c)).length ≤ 1
  · simp only [hc, if_true, pixels, List.append_assoc]
    rw [pixelsL_le_one hc]
  · simp only [hc, if_false, pixels, List.append_assoc, List.nil_append]
    exact List.Perm.refl _

def fails (n : Nat) (t : Tree) : Bool := decide (t.pixels.length < n)

/-- a leaf failing `min_npix = n` -/
def bn (n : Nat) (t : Tree) : Bool := t.isLeaf && fails n t

mutual
def collapse (n : Nat) : Tree → Tree
  | node i o ks => finishG (bn n) i o (collapseL n ks)
def collapseL (n : Nat) : List Tree → List Tree
  | [] => []
  | t :: ts => collapse n t :: collapseL n ts
end

theorem collapseL_eq_map (n : Nat) (l : List Tree) : collapseL n l = l.map (collapse n) := by
  induction l with
  | nil => rfl
  | cons t ts ih => simp [collapseL, ih]

theorem collapse_eq (n : Nat) (t : Tree) :
    collapse n t = finishG (bn n) t.id t.own (t.kids.map (collapse n)) := by
  cases t with | node i o ks => simp [collapse, collapseL_eq_map]

theorem collapse_node (n : Nat) (i : Nat) (o : List Nat) (ks : List Tree) :
    collapse n (node i o ks) = finishG (bn n) i o (ks.map (collapse n)) := by
  simp [collapse, collapseL_eq_map]

theorem fails_sim {n : Nat} {c c' : Tree} (h : Sm c c') : fails n c = fails n c' := by
  simp only [fails, (Sm.pixels' h).length_eq]

theorem bn_sim {n : Nat} {c c' : Tree} (h : Sm c c') : bn n c = bn n c' := by
  simp only [bn, fails_sim h, P10.Sim.isLeaf h]

theorem collapse_leaf (n : Nat) {t : Tree} (h : t.kids = []) : collapse n t = node t.id t.own [] := by
  rw [collapse_eq, h]; simp [finishG_nil]

theorem collapse_sim_aux (n : Nat) :
    (∀ t t' : Tree, Sm t t' → Sm (collapse n t) (collapse n t')) ∧
    (∀ l l' : List Tree, SmL l l' → SmL (l.map (collapse n)) (l'.map (collapse n))) := by
  apply Tree.forest_induction
  · intro i o ks ih t' h
    cases t' with | node i' o' ks' =>
    rw [collapse_node, collapse_node]
    exact finishG_sim (Sm.own' h) (ih _ (P10.Sim.kids h)) (fun c _ c' hcc => bn_sim hcc)
  · intro l' h; cases h; exact .nil
  · intro t ts iht ihts l' h
    cases h with
    | @cons _ t' _ ts' _ h1 h2 h3 =>
      have : SmL ((t :: ts).map (collapse n)) ((t' :: ts').map (collapse n)) :=
        .cons (iht _ h1) (ihts _ h2) (List.Perm.refl _)
      exact this.perm_right (h3.map _).symm

theorem collapseL_sim {n : Nat} {l l' : List Tree} (h : SmL l l') :
    SmL (l.map (collapse n)) (l'.map (collapse n)) := (collapse_sim_aux n).2 l l' h

/-- a branch holds a pixel strictly brighter than its creating pixel: a child that is a leaf was
significant there, so its peak is not at that level; a child that is a branch holds such a pixel
for its own creating pixel, which was processed earlier -/
theorem run_branch_bright (E : Env) (order : List Nat)
    (hsorted : order.Pairwise (fun a b => E.val b ≤ E.val a)) :
    ∀ t ∈ preL (run E order), t.kids ≠ [] → ∃ x ∈ t.pixels, E.val t.id < E.val x := by
  intro t
  induction t using Tree.ind with
  | h i o ks ih =>
    intro ht hk
    obtain ⟨L, hL⟩ := List.exists_mem_of_ne_nil _ hk
    obtain ⟨pre, suf, ho, hLr, -, hsig⟩ := ContourP.run_child_hist E order _ ht L hL
    simp only [id_node] at ho hsig ⊢
    have hle : ∀ x ∈ pre, E.val i ≤ E.val x := sorted_at ho hsorted
    have hLn := kid_mem_preL ht hL
    by_cases hl : L.kids = []
    · obtain ⟨a, ha, hv⟩ := vmax_attained E.val L (run_own_nonempty E order L hLn)
      have hne : L.vmax E.val ≠ E.val i := fun e => by
        rw [(insig_iff E i L).mpr ⟨hl, .inl e⟩] at hsig; cases hsig
      have := hle a (pixels_mem_order hLr (own_pixels_sub L ha))
      exact ⟨a, kids_pixels_sub _ (mem_pixelsL.mpr ⟨L, hL, own_pixels_sub L ha⟩), by omega⟩
    · obtain ⟨x, hx, hlt⟩ := ih L hL hLn hl
      have := hle L.id (run_ids_subset E pre L (mem_preL_of_mem hLr))
      exact ⟨x, kids_pixels_sub _ (mem_pixelsL.mpr ⟨L, hL, hx⟩), by omega⟩

theorem height_kid_le (val : Nat → Int) {P k : Tree} (hk : k ∈ P.kids) (hl : k.kids = [])
    (hne : k.own ≠ []) : P.height val ≤ k.height val := by
  have hP : P.kids.isEmpty = false := List.isEmpty_eq_false_iff.mpr (List.ne_nil_of_mem hk)
  have h1 : P.height val ≤ k.vmin val := by
    simp only [Tree.height, hP]
    exact minL_le (List.mem_map_of_mem hk)
  have h2 : k.height val = k.vmax val := by simp [Tree.height, hl]
  rw [h2]
  exact Int.le_trans h1 (vmin_le_vmax val k hne)

/-- the delta test holds because a leaf is at least as high as its parent -/
theorem allChild_leaf_eq (val : Nat → Int) {d : Int} (hd : d ≤ 0) (n : Nat) {P k : Tree} (hk : k ∈ P.kids)
    (hl : k.kids = []) (hne : k.own ≠ []) :
    allChild val [Crit.minDelta d, Crit.minNpix n] P k = !fails n k := by
  have h0 : decide (d ≤ k.height val - P.height val) = true := by
    have := height_kid_le val hk hl hne
    simp only [decide_eq_true_eq]; omega
  simp only [allChild, List.all_cons, List.all_nil, Crit.child, h0, Bool.true_and, Bool.and_true, fails,
    ← decide_not, Nat.not_lt]

/-- On a sorted run the post-hoc test of `prune` on a leaf (`min_delta = 0`, `min_npix = n`) is the
test made at merge time at the creating pixel of its parent, whatever criteria `E` the run itself
used: both delta tests hold, and the pixel count of the leaf is frozen. -/
theorem posthoc_eq_mergetime (E : Env) (order : List Nat) (hnd : order.Nodup)
    (hsorted : order.Pairwise (fun a b => E.val b ≤ E.val a)) (n : Nat) :
    ∀ P ∈ Tree.preL (run E order), ∀ L ∈ P.kids, L.kids = [] →
      allChild E.val [Crit.minDelta 0, Crit.minNpix n] P L =
        allMerge E.val [Crit.minDelta 0, Crit.minNpix n] L P.id (E.val P.id) := by
  intro P hP L hL hl
  have hle := (ContourP.run_meeting_pixel E order hnd hsorted P hP L hL).2.2.2
  have hne : L.own ≠ [] := run_own_nonempty E order L (kid_mem_preL hP hL)
  rw [allChild_leaf_eq E.val (Int.le_refl 0) n hL hl hne]
  obtain ⟨a, ha, hv⟩ := vmax_attained E.val L hne
  have h0 : decide (0 ≤ L.vmax E.val - E.val P.id) = true := by
    have := hle a (own_pixels_sub L ha)
    simp only [decide_eq_true_eq]; omega
  simp only [allMerge, List.all_cons, List.all_nil, Crit.atMerge, h0, Bool.true_and, Bool.and_true, fails,
    ← decide_not, Nat.not_lt]

def dval : Nat → Int := fun p => [3, 1, 2].getD p 0
/-- face adjacency on a row of three pixels -/
def dnbrs : Nat → List Nat := Grid.nbrs [3] []

/-- **NEGATIVE result for `min_delta`.**  Computing with `min_delta = 0` and pruning with
`min_delta = 1` leaves one structure; computing with `min_delta = 1` gives three (the post-hoc
test compares heights of leaf and parent, the merge-time test compares the peak with the joining
value). -/
theorem delta_counterexample :
    (Tree.preL (prune (allChild dval [Crit.minDelta 1, Crit.minNpix 0])
        (allOrphan dval [Crit.minDelta 1, Crit.minNpix 0])
        (makeTrunk (envOf dval dnbrs [Crit.minDelta 0, Crit.minNpix 0])
          (run (envOf dval dnbrs [Crit.minDelta 0, Crit.minNpix 0]) [0, 2, 1])))).length = 1 ∧
    (Tree.preL (makeTrunk (envOf dval dnbrs [Crit.minDelta 1, Crit.minNpix 0])
        (run (envOf dval dnbrs [Crit.minDelta 1, Crit.minNpix 0]) [0, 2, 1]))).length = 3 := by
  decide

end P18
