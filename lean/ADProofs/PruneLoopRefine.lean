import ADProofs.HeapRefine
import ADProofs.PruneProofs

/-!
# PruneLoopRefine (P41): the `_to_prune` loop on the object heap refines `pruneLoop` on trees

`P35.foldl_merge_refines` (`C14_heap_prune_refines`) relates `Heap.prune h ms` to the tree model for an *arbitrary*
legal merge list `ms`.  The code (dendrogram.py:598-615, 785-824) does not take a list: `_to_prune` *finds* the next
structure by scanning `all_structures`, the caller applies the two-sibling rule, and the scan restarts.  The
definitions model that loop on the heap as the code runs it.  The `…From` versions take the trunk list `roots` as a
parameter (`dendrogram.trunk` is not reassigned inside the loop; `pruneForest` scans the forest in the order given),
the others read it off the heap (`P35.rootsOf`).  The criterion is a function of the CURRENT heap and an identifier
(`ic : Heap → Nat → Bool`); `icOf icT` is a tree-level criterion read on the current heap.  With a criterion frozen on
the initial heap the refinement is false (`h3`, counterexample at the end).

The proof follows the scan.  `all_structures` with fuel `h.size` is the prefix listing of the abstracted forest, and
`pruneKids` / `pruneIn` / `pruneForest` on the abstraction are `find?` of the candidate over that listing, mapped to
the abstraction after the caller's merges: these are local to the parent `p` of the structure found, at `p` they are
`pruneAt`, and above `p` only the child on the way to `p` changes (`Local.context`).  The merges of a run form a
`Legal` list, so `P17.prune_sound` applies.

Remark (both models alike): for a parent with exactly ONE child the Python caller leaves `merge` unbound / stale
(`len(siblings)` is neither `== 2` nor `> 2`); `pruneAt` and `mergeList` merge the leaf alone.
-/

namespace P41
open Heap Tree P17 P35

/-- `Dendrogram.all_structures` : `todo = list(trunk); while todo: st = todo.pop(0); yield st;
    todo = st.children + todo`.  `fuel` bounds the number of `pop`s. -/
def prefixIds (h : Heap) : Nat → List Nat → List Nat
  | 0, _ => []
  | _ + 1, [] => []
  | fuel + 1, i :: todo => i :: prefixIds h fuel (kidsOf h i ++ todo)

/-- the four tests of `_to_prune`, negated: `struct.is_leaf`, `struct.idx in keep_structures`,
    `not is_independent(struct)`, `struct.parent is not None` -/
def cand (h : Heap) (ic : Nat → Bool) (i : Nat) : Bool :=
  (kidsOf h i).isEmpty && h.alive.contains i && !ic i && (parentOf h i).isSome

/-- one pass of `for struct in dendrogram.all_structures` in `_to_prune`: the structure that is yielded, if any -/
def scanFirstFrom (h : Heap) (roots : List Nat) (ic : Nat → Bool) : Option Nat :=
  (prefixIds h h.size roots).find? (cand h ic)

/-- the caller's `merge` list -/
def mergeList (h : Heap) (i : Nat) : List Nat :=
  match parentOf h i with
  | none => []
  | some p => if (kidsOf h p).length = 2 then kidsOf h p else [i]

/-- `for m in merge: _merge_with_parent(m); del keep_structures[m.idx]` -/
def stepH (h : Heap) (i : Nat) : Heap := (mergeList h i).foldl Heap.mergeWithParent h

/-- one round of `for struct in _to_prune(...)` : `none` when the generator returns -/
def loopStepFrom (h : Heap) (roots : List Nat) (ic : Nat → Bool) : Option Heap :=
  (scanFirstFrom h roots ic).map (stepH h)

/-- `ic` is applied to the heap of the round: `is_independent(struct)` reads the live fields of `struct` and of
    `struct.parent` -/
def loopRunFrom (roots : List Nat) (ic : Heap → Nat → Bool) : Nat → Heap → Heap
  | 0, h => h
  | n + 1, h =>
    match loopStepFrom h roots (ic h) with
    | none => h
    | some h' => loopRunFrom roots ic n h'

def loopMergesFrom (roots : List Nat) (ic : Heap → Nat → Bool) : Nat → Heap → List Nat
  | 0, _ => []
  | n + 1, h =>
    match scanFirstFrom h roots (ic h) with
    | none => []
    | some i => mergeList h i ++ loopMergesFrom roots ic n (stepH h i)

def scanFirst (h : Heap) (ic : Nat → Bool) : Option Nat := scanFirstFrom h (rootsOf h) ic
def loopRun (fuel : Nat) (h : Heap) (ic : Heap → Nat → Bool) : Heap := loopRunFrom (rootsOf h) ic fuel h
def loopMerges (fuel : Nat) (h : Heap) (ic : Heap → Nat → Bool) : List Nat :=
  loopMergesFrom (rootsOf h) ic fuel h

def icOf (icT : Tree → Tree → Bool) (h : Heap) (i : Nat) : Bool :=
  match parentOf h i with
  | none => true
  | some p => icT (absT h h.size p) (absT h h.size i)

/-- what the proofs need of the trunk list the scan starts from; it need not be all of `rootsOf h` -/
structure Trunk (h : Heap) (roots : List Nat) : Prop where
  nodup : roots.Nodup
  alive : ∀ r ∈ roots, r ∈ h.alive
  noparent : ∀ r ∈ roots, parentOf h r = none

theorem trunk_rootsOf {h : Heap} (w : WF h) : Trunk h (rootsOf h) :=
  ⟨w.alive_nodup.filter _, fun _ hr => (mem_rootsOf.1 hr).1, fun _ hr => (mem_rootsOf.1 hr).2⟩

theorem cand_iff {h : Heap} {ic : Nat → Bool} {i : Nat} :
    cand h ic i = true ↔ kidsOf h i = [] ∧ i ∈ h.alive ∧ ic i = false ∧ parentOf h i ≠ none := by
  simp [cand, List.isEmpty_iff, Option.isSome_iff_ne_none, and_assoc]

theorem cand_icOf {h : Heap} {icT : Tree → Tree → Bool} {i p : Nat} (hi : i ∈ h.alive) (hp : parentOf h i = some p) :
    cand h (icOf icT h) i = ((kidsOf h i).isEmpty && !icT (absT h h.size p) (absT h h.size i)) := by
  simp [cand, icOf, hi, hp]

theorem mergeList_eq {h : Heap} {i p : Nat} {po : Obj} (hp : parentOf h i = some p) (hgp : h.get p = some po) :
    mergeList h i = if po.kids.length = 2 then po.kids else [i] := by
  simp [mergeList, hp, kidsOf_eq hgp]

theorem parentOf_ne_none {h : Heap} {i p : Nat} (hp : parentOf h i = some p) :
    (h.get i).bind (·.parent) ≠ none := by
  unfold parentOf at hp; rw [hp]; simp

theorem stepH_size (h : Heap) (i : Nat) : (stepH h i).size = h.size := List.foldl_inv Heap.size _ merge_size _ h

theorem merge_sibling {h : Heap} (w : WF h) {k1 k2 p : Nat} (a1 : k1 ∈ h.alive) (a2 : k2 ∈ h.alive)
    (hne : k1 ≠ k2) (p1 : parentOf h k1 = some p) (p2 : parentOf h k2 = some p) :
    k2 ∈ (h.mergeWithParent k1).alive ∧ parentOf (h.mergeWithParent k1) k2 = some p := by
  refine ⟨merge_alive_of_ne a2 (Ne.symm hne), ?_⟩
  -- `k1` is not its own parent
  have hne' : parentOf h k2 ≠ some k1 := by
    rw [p2]; intro e; cases e; exact not_down_parent w a1 p1 (.refl _)
  rw [merge_parentOf w a1 p1 a2, if_neg hne', p2]

theorem merge_children {p : Nat} {ms : List Nat} : ∀ {h : Heap}, WF h → ms.Nodup →
    (∀ m ∈ ms, m ∈ h.alive ∧ parentOf h m = some p) →
    Legal h ms ∧ Local h (ms.foldl Heap.mergeWithParent h) p ∧
      ∀ n, absT (ms.foldl Heap.mergeWithParent h) n p = (ms.map (absT h n)).foldl mergeInto (absT h n p) := by
  induction ms with
  | nil => exact fun {h} _ _ _ => ⟨.nil h, .refl h p, fun _ => rfl⟩
  | cons m ms ih =>
    intro h w hnd hms
    obtain ⟨hm, hmp⟩ := hms m (by simp)
    obtain ⟨hmms, hnd'⟩ := List.nodup_cons.1 hnd
    obtain ⟨hl, loc, hp⟩ := ih (mergeWithParent_wf h m w hm (parentOf_ne_none hmp)) hnd' fun k hk =>
      merge_sibling w hm (hms k (by simp [hk])).1 (fun e => hmms (e ▸ hk)) hmp (hms k (by simp [hk])).2
    refine ⟨.cons hm (parentOf_ne_none hmp) hl, (local_merge hmp).trans loc, fun n => ?_⟩
    rw [List.foldl_cons, hp n, merge_refines_parent w hm hmp, List.map_cons, List.foldl_cons]
    -- the later children lie strictly below `p`: the first merge does not touch them
    refine congrArg (List.foldl mergeInto _) (List.map_congr_left fun k hk => ?_)
    obtain ⟨hka, hkp⟩ := hms k (by simp [hk])
    exact merge_refines_unchanged hmp n k (not_down_parent w hka hkp)

theorem stepH_spec {h : Heap} (w : WF h) {i p : Nat} (hi : i ∈ h.alive) (hp : parentOf h i = some p) :
    Legal h (mergeList h i) ∧ Local h (stepH h i) p ∧
      ∀ n, absT (stepH h i) n p = ((mergeList h i).map (absT h n)).foldl mergeInto (absT h n p) := by
  obtain ⟨io, hgi, hip⟩ := Option.bind_eq_some_iff.mp hp
  obtain ⟨hpa, po, hgp, _⟩ := w.parent_ok i hi io hgi p hip
  unfold stepH
  rw [mergeList_eq hp hgp]
  split
  · exact merge_children w (w.kids_nodup p hpa po hgp) fun m hm => kid_parentOf w hpa hgp hm
  · exact merge_children w (by simp) fun m hm => by rw [List.mem_singleton.1 hm]; exact ⟨hi, hp⟩

theorem stepH_local {h : Heap} (w : WF h) {i p : Nat} (hi : i ∈ h.alive) (hp : parentOf h i = some p) :
    Local h (stepH h i) p := (stepH_spec w hi hp).2.1

theorem trunk_foldl {h : Heap} {ms : List Nat} (hl : Legal h ms) {roots : List Nat} (w : WF h)
    (t : Trunk h roots) : Trunk (ms.foldl Heap.mergeWithParent h) roots := by
  induction hl with
  | nil h => exact t
  | @cons h m ms hm hp _ ih =>
    simp only [List.foldl_cons]
    obtain ⟨p, (hp' : parentOf h m = some p)⟩ := Option.ne_none_iff_exists'.mp hp
    refine ih (mergeWithParent_wf _ _ w hm hp) ⟨t.nodup, fun r hr => ?_, fun r hr => ?_⟩
    · refine merge_alive_of_ne (t.alive r hr) ?_
      intro e; subst e
      rw [t.noparent r hr] at hp'; cases hp'
    · rw [merge_parentOf w hm hp' (t.alive r hr), t.noparent r hr, if_neg nofun]

theorem stepH_parent {h : Heap} (w : WF h) {rk} (hr : RankOK h rk) {k p : Nat} (hk : k ∈ h.alive)
    (hp : parentOf h k = some p) (n : Nat) (hn : h.size ≤ n + rk p) :
    absT (stepH h k) n p = pruneAt (absT h n p) (absT h n k) := by
  obtain ⟨ko, hgk, hkp⟩ := Option.bind_eq_some_iff.mp hp
  obtain ⟨hpa, po, hgp, _⟩ := w.parent_ok k hk ko hgk p hkp
  rw [(stepH_spec w hk hp).2.2, mergeList_eq hp hgp, pruneAt, absT_unfold_of_le w hr hpa hgp hn]
  simp only [kids_node, List.length_map]
  by_cases h2 : po.kids.length = 2
  · rw [if_pos h2, if_pos (by simpa using h2)]
  · rw [if_neg h2, if_neg (by simpa using h2)]; rfl

/-- identifiers of a list of sub-trees, prefix order, as `all_structures` lists them -/
def idsBelow (h : Heap) (n : Nat) (l : List Nat) : List Nat := l.flatMap fun c => c :: descIds (absT h n c)

theorem descIds_succ {h : Heap} {x : Nat} {o : Obj} (n : Nat) (hg : h.get x = some o) :
    descIds (absT h (n + 1) x) = idsBelow h n o.kids := by
  rw [descIds_absT_succ, kidsOf_eq hg]; rfl

theorem find_idsBelow_cons (h : Heap) (n c : Nat) (rs : List Nat) (q : Nat → Bool) :
    (idsBelow h n (c :: rs)).find? q =
      if q c then some c else ((descIds (absT h n c)).find? q).or ((idsBelow h n rs).find? q) := by
  simp only [idsBelow, List.flatMap_cons, List.cons_append, List.find?_cons, List.find?_append]
  cases q c <;> rfl

theorem isLeaf_absT {h : Heap} (w : WF h) {rk} (hr : RankOK h rk) {c : Nat} {co : Obj} (hc : c ∈ h.alive)
    (hg : h.get c = some co) {n : Nat} (hn : h.size ≤ n + rk c) : (absT h n c).isLeaf = co.kids.isEmpty := by
  rw [absT_unfold_of_le w hr hc hg hn]; simp [Tree.isLeaf, Tree.kids]

theorem descIds_leaf {t : Tree} (ht : t.isLeaf = true) : descIds t = [] := by
  simp [descIds, (isLeaf_iff _).1 ht, preL]

theorem mem_ids_down (h : Heap) (n : Nat) : ∀ x y, y ∈ x :: descIds (absT h n x) → Down h x y := by
  induction n with
  | zero => intro x y hy; simp [absT_zero, descIds, Tree.kids, preL] at hy; exact hy ▸ .refl _
  | succ n ih =>
    intro x y hy
    rw [descIds_absT_succ, List.mem_cons, List.mem_flatMap] at hy
    rcases hy with rfl | ⟨c, hc, hy⟩
    · exact .refl _
    · exact .kid hc (ih c y hy)

theorem cons_descIds_nodup {h : Heap} (w : WF h) (n : Nat) :
    ∀ x, x ∈ h.alive → (x :: descIds (absT h n x)).Nodup := by
  induction n with
  | zero => intro x _; simp [absT_zero, descIds, Tree.kids, preL]
  | succ n ih =>
    intro x hx
    obtain ⟨o, hg⟩ := w.alive_get x hx
    rw [descIds_succ n hg, List.nodup_cons]
    constructor
    · intro hmem
      obtain ⟨c, hc, hy⟩ := List.mem_flatMap.1 hmem
      obtain ⟨hca, hcx⟩ := kid_parentOf w hx hg hc
      exact not_down_parent w hca hcx (mem_ids_down h n c x hy)
    · refine List.nodup_flatMap_of _ _ (w.kids_nodup x hx o hg)
        (fun c hc => ih c (w.kids_ok x hx o hg c hc).1) ?_
      intro a ha b hb hab y hya hyb
      obtain ⟨haa, hax⟩ := kid_parentOf w hx hg ha
      obtain ⟨hba, hbx⟩ := kid_parentOf w hx hg hb
      exact Down.disjoint w haa hba hab (hax.trans hbx.symm) (mem_ids_down h n a y hya) (mem_ids_down h n b y hyb)

theorem parent_down {h : Heap} (w : WF h) (n : Nat) {x i : Nat} (hx : x ∈ h.alive) (hi : i ∈ descIds (absT h n x)) :
    i ∈ h.alive ∧ ∃ p, parentOf h i = some p ∧ Down h x p := by
  have d := mem_ids_down h n x i (List.mem_cons_of_mem x hi)
  obtain ⟨rk, hr⟩ := w.rank
  -- `i` is not `x` itself, which does not occur among its own descendants
  refine ⟨(d.alive_rank w hr hx).1, (d.up w hx).resolve_left fun e => ?_⟩
  exact (List.nodup_cons.1 (cons_descIds_nodup w n x hx)).1 (e ▸ hi)

/-- `dn` are the children of `x` already scanned, `rs` the remaining ones; `IH` is `pruneIn_eq_find` for the children -/
theorem pruneKids_eq_find {h : Heap} (w : WF h) {rk} (hr : RankOK h rk) (icT : Tree → Tree → Bool) (n : Nat)
    {o : Obj} (IH : ∀ c ∈ o.kids, c ∈ h.alive ∧ h.size ≤ n + rk c ∧ pruneIn icT (absT h n c) =
      ((descIds (absT h n c)).find? (cand h (icOf icT h))).map fun i => absT (stepH h i) n c)
    {x : Nat} (hx : x ∈ h.alive) (hg : h.get x = some o) (hn : h.size ≤ n + 1 + rk x) :
    ∀ rs dn, o.kids = dn ++ rs →
      pruneKids icT (absT h (n + 1) x) (dn.map (absT h n)) (rs.map (absT h n)) =
        ((idsBelow h n rs).find? (cand h (icOf icT h))).map fun i => absT (stepH h i) (n + 1) x := by
  intro rs
  induction rs with
  | nil => intro dn _; rfl
  | cons c rs ih =>
    intro dn hks
    have hc : c ∈ o.kids := hks ▸ List.mem_append_right _ List.mem_cons_self
    obtain ⟨hca, co, hgc, hcp⟩ := w.kids_ok x hx o hg c hc
    obtain ⟨_, hnc, ihc⟩ := IH c hc
    have ih' := ih (dn ++ [c]) (hks.trans (List.append_cons dn c rs))
    rw [List.map_append, List.map_cons, List.map_nil] at ih'
    have hpc : parentOf h c = some x := by rw [parentOf_eq hgc, hcp]
    -- the criterion reads the trees at fuel `h.size`; any sufficient fuel gives the same trees
    rw [find_idsBelow_cons, List.map_cons, pruneKids, isLeaf_absT w hr hca hgc hnc, ih', cand_icOf hca hpc,
      kidsOf_eq hgc, absT_stable w hr h.size (n + 1) x hx (Nat.le_add_right _ _) hn,
      absT_stable w hr h.size n c hca (Nat.le_add_right _ _) hnc]
    cases hleaf : co.kids.isEmpty with
    | true =>
      rw [descIds_leaf (by rw [isLeaf_absT w hr hca hgc hnc, hleaf])]
      cases icT (absT h (n + 1) x) (absT h n c) with
      | true => rfl
      | false =>
        show some _ = some (absT (stepH h c) (n + 1) x)
        rw [stepH_parent w hr hca hpc (n + 1) hn, absT_stable w hr (n + 1) n c hca (by omega) hnc]
    | false =>
      -- a branch is never a candidate itself; the scan goes into it
      rw [ihc]
      cases hf : (descIds (absT h n c)).find? (cand h (icOf icT h)) with
      | none => rfl
      | some j =>
        obtain ⟨hja, p, hjp, hd⟩ := parent_down w n hca (List.mem_of_find?_eq_some hf)
        show some _ = some (absT (stepH h j) (n + 1) x)
        rw [(stepH_local w hja hjp).context w n hx hg hks hd, absT_succ_some _ hg]
        rfl

theorem pruneIn_eq_find {h : Heap} (w : WF h) {rk} (hr : RankOK h rk) (icT : Tree → Tree → Bool) :
    ∀ n x, x ∈ h.alive → h.size ≤ n + rk x → pruneIn icT (absT h n x) =
      ((descIds (absT h n x)).find? (cand h (icOf icT h))).map fun i => absT (stepH h i) n x :=
  w.down_induction hr fun n x o hx hg hn ih => by
    rw [descIds_succ n hg, ← pruneKids_eq_find w hr icT n ih hx hg hn o.kids [] rfl, absT_succ_some n hg, pruneIn]
    rfl

theorem pruneForest_eq_find {h : Heap} (w : WF h) (icT : Tree → Tree → Bool) {roots : List Nat}
    (t : Trunk h roots) :
    ∀ rs dn, roots = dn ++ rs →
      pruneForest icT (dn.map (absT h h.size)) (rs.map (absT h h.size)) =
        ((idsBelow h h.size rs).find? (cand h (icOf icT h))).map fun i => absF (stepH h i) h.size roots := by
  obtain ⟨rk, hr⟩ := w.rank
  intro rs
  induction rs with
  | nil => intro dn _; rfl
  | cons r rs ih =>
    intro dn hks
    have hrr : r ∈ roots := hks ▸ List.mem_append_right _ List.mem_cons_self
    have ih' := ih (dn ++ [r]) (hks.trans (List.append_cons dn r rs))
    rw [List.map_append, List.map_cons, List.map_nil] at ih'
    -- a trunk structure has no parent, so it is never a candidate itself
    have hcand : cand h (icOf icT h) r = false := by simp [cand, t.noparent r hrr]
    rw [find_idsBelow_cons, hcand, List.map_cons, pruneForest, ih',
      pruneIn_eq_find w hr icT h.size r (t.alive r hrr) (Nat.le_add_right _ _)]
    by_cases hl : (absT h h.size r).isLeaf = true
    · rw [if_pos hl, descIds_leaf hl]; rfl
    · rw [if_neg hl]
      cases hf : (descIds (absT h h.size r)).find? (cand h (icOf icT h)) with
      | none => rfl
      | some j =>
        obtain ⟨hja, p, hjp, hd⟩ := parent_down w h.size (t.alive r hrr) (List.mem_of_find?_eq_some hf)
        subst hks
        show some _ = some (absF (stepH h j) h.size _)
        -- the step is local to `p` below `r`, and the other trunk structures have nothing below them in common with `r`
        refine congrArg some (List.map_update_one t.nodup fun k hk hkr => ?_).symm
        exact (stepH_local w hja hjp).unchanged h.size k fun d => Down.disjoint w (t.alive k hk) (t.alive r hrr) hkr
          ((t.noparent k hk).trans (t.noparent r hrr).symm) d hd

theorem idsBelow_eq_preL (h : Heap) (n : Nat) (l : List Nat) :
    idsBelow h n l = (preL (absF h n l)).map Tree.id :=
  (ids_preL_map (absT h n) (absT_id h n) l).symm

theorem idsBelow_append (h : Heap) (n : Nat) (a b : List Nat) :
    idsBelow h n (a ++ b) = idsBelow h n a ++ idsBelow h n b := by
  simp [idsBelow]

theorem descIds_size {h : Heap} (w : WF h) {x : Nat} {o : Obj} (hx : x ∈ h.alive) (hg : h.get x = some o) :
    descIds (absT h h.size x) = idsBelow h h.size o.kids := by
  rw [absT_unfold w hx hg]
  exact ids_preL_map _ (absT_id h _) _

theorem prefixIds_eq {h : Heap} (w : WF h) (fuel : Nat) :
    ∀ todo, (∀ i ∈ todo, i ∈ h.alive) → prefixIds h fuel todo = (idsBelow h h.size todo).take fuel := by
  induction fuel with
  | zero => intro todo _; cases todo <;> rfl
  | succ fuel ih =>
    intro todo ha
    cases todo with
    | nil => rfl
    | cons i t =>
      have hia := ha i (by simp)
      obtain ⟨o, hg⟩ := w.alive_get i hia
      rw [prefixIds, kidsOf_eq hg, ih (o.kids ++ t) ?_, idsBelow_append, ← descIds_size w hia hg]
      · rfl
      · intro c hc
        rcases List.mem_append.1 hc with hc | hc
        · exact (w.kids_ok i hia o hg c hc).1
        · exact ha c (by simp [hc])

theorem idsBelow_nodup {h : Heap} (w : WF h) {roots : List Nat} (t : Trunk h roots) (n : Nat) :
    (idsBelow h n roots).Nodup := by
  refine List.nodup_flatMap_of _ _ t.nodup (fun r hr => cons_descIds_nodup w n r (t.alive r hr)) ?_
  intro a ha b hb hab y hya hyb
  exact Down.disjoint w (t.alive a ha) (t.alive b hb) hab ((t.noparent a ha).trans (t.noparent b hb).symm)
    (mem_ids_down h n a y hya) (mem_ids_down h n b y hyb)

/-- every abstracted forest meets `IdsNodup`, the hypothesis under which `ADProofs.PruneProofs` (C07) speaks about
    `pruneLoop` -/
theorem absF_idsNodup {h : Heap} (w : WF h) {roots : List Nat} (t : Trunk h roots) (n : Nat) :
    IdsNodup (absF h n roots) := by
  unfold IdsNodup
  rw [← idsBelow_eq_preL]
  exact idsBelow_nodup w t n

theorem idsBelow_alive {h : Heap} (w : WF h) {roots : List Nat} (ha : ∀ r ∈ roots, r ∈ h.alive) (n : Nat) :
    ∀ y ∈ idsBelow h n roots, y ∈ h.alive := by
  obtain ⟨rk, hr⟩ := w.rank
  intro y hy
  obtain ⟨r, hrr, hy⟩ := List.mem_flatMap.1 hy
  exact ((mem_ids_down h n r y hy).alive_rank w hr (ha r hrr)).1

theorem alive_length_lt_size {h : Heap} (w : WF h) : h.alive.length < h.size := by
  have : h.alive.length ≤ (h.objs.map (·.id)).length := by
    refine w.alive_nodup.length_le_of_subset fun i hi => ?_
    obtain ⟨o, hg⟩ := w.alive_get i hi
    exact List.mem_map.2 ⟨o, List.mem_of_find?_eq_some hg, get_id hg⟩
  rw [List.length_map] at this
  rw [P17.size_eq]; omega

theorem idsBelow_length_lt {h : Heap} (w : WF h) {roots : List Nat} (t : Trunk h roots) (n : Nat) :
    (idsBelow h n roots).length < h.size :=
  Nat.lt_of_le_of_lt ((idsBelow_nodup w t n).length_le_of_subset (idsBelow_alive w t.alive n))
    (alive_length_lt_size w)

theorem prefixIds_refines {h : Heap} (w : WF h) {roots : List Nat} (t : Trunk h roots) :
    prefixIds h h.size roots = (preL (absF h h.size roots)).map Tree.id := by
  rw [prefixIds_eq w h.size roots t.alive, ← idsBelow_eq_preL]
  exact List.take_of_length_le (Nat.le_of_lt (idsBelow_length_lt w t _))

/-- what `_to_prune` yields is an alive leaf with a parent that fails the criterion -/
theorem scanFirstFrom_some {h : Heap} {roots : List Nat} {ic : Nat → Bool} {i : Nat}
    (hs : scanFirstFrom h roots ic = some i) :
    kidsOf h i = [] ∧ i ∈ h.alive ∧ ic i = false ∧ parentOf h i ≠ none :=
  cand_iff.1 (List.find?_some hs)

theorem loopStep_refines {h : Heap} (w : WF h) {roots : List Nat} (t : Trunk h roots)
    (icT : Tree → Tree → Bool) :
    pruneForest icT [] (absF h h.size roots) =
      (loopStepFrom h roots (icOf icT h)).map fun h' => absF h' h'.size roots := by
  rw [loopStepFrom, scanFirstFrom, prefixIds_refines w t, ← idsBelow_eq_preL, Option.map_map]
  simp only [Function.comp_def, stepH_size]
  exact pruneForest_eq_find w icT t roots [] rfl

theorem scan_step {h : Heap} (w : WF h) {roots : List Nat} (t : Trunk h roots) {ic : Nat → Bool} {i : Nat}
    (hs : scanFirstFrom h roots ic = some i) :
    Legal h (mergeList h i) ∧ WF (stepH h i) ∧ Trunk (stepH h i) roots := by
  obtain ⟨_, hia, _, hp⟩ := scanFirstFrom_some hs
  obtain ⟨p, hp⟩ := Option.ne_none_iff_exists'.mp hp
  have hl := (stepH_spec w hia hp).1
  exact ⟨hl, foldl_merge_wf w hl, trunk_foldl hl w t⟩

theorem loopRunFrom_refines {roots : List Nat} (icT : Tree → Tree → Bool) (n : Nat) :
    ∀ {h : Heap}, WF h → Trunk h roots →
      absF (loopRunFrom roots (icOf icT) n h) (loopRunFrom roots (icOf icT) n h).size roots =
        pruneLoop icT n (absF h h.size roots) := by
  induction n with
  | zero => intro h _ _; rfl
  | succ n ih =>
    intro h w t
    rw [loopRunFrom, pruneLoop, loopStep_refines w t icT, loopStepFrom]
    cases hs : scanFirstFrom h roots (icOf icT h) with
    | none => rfl
    | some i => exact ih (scan_step w t hs).2.1 (scan_step w t hs).2.2

theorem legal_append {h : Heap} {a b : List Nat} (ha : Legal h a)
    (hb : Legal (a.foldl Heap.mergeWithParent h) b) : Legal h (a ++ b) := by
  induction ha with
  | nil h => exact hb
  | cons hm hp _ ih => exact .cons hm hp (ih hb)

theorem loopMergesFrom_legal {roots : List Nat} (ic : Heap → Nat → Bool) (n : Nat) :
    ∀ {h : Heap}, WF h → Trunk h roots →
      Legal h (loopMergesFrom roots ic n h) ∧
      loopRunFrom roots ic n h = (loopMergesFrom roots ic n h).foldl Heap.mergeWithParent h := by
  induction n with
  | zero => intro h _ _; exact ⟨.nil _, rfl⟩
  | succ n ih =>
    intro h w t
    rw [loopRunFrom, loopMergesFrom, loopStepFrom]
    cases hs : scanFirstFrom h roots (ic h) with
    | none => exact ⟨.nil _, rfl⟩
    | some i =>
      obtain ⟨hl, w', t'⟩ := scan_step w t hs
      obtain ⟨l2, e2⟩ := ih w' t'
      exact ⟨legal_append hl l2, by rw [List.foldl_append]; exact e2⟩

theorem rootsOf_foldl {h : Heap} {ms : List Nat} (w : WF h) (hl : Legal h ms) :
    rootsOf (ms.foldl Heap.mergeWithParent h) = rootsOf h := by
  induction hl with
  | nil h => rfl
  | @cons h m ms hm hp _ ih =>
    simp only [List.foldl_cons]
    obtain ⟨p, hp'⟩ := Option.ne_none_iff_exists'.mp hp
    rw [ih (mergeWithParent_wf _ _ w hm hp), rootsOf_merge w hm hp']

theorem loopRun_legal {h : Heap} (w : WF h) (ic : Heap → Nat → Bool) (n : Nat) :
    Legal h (loopMerges n h ic) ∧ loopRun n h ic = (loopMerges n h ic).foldl Heap.mergeWithParent h ∧
      WF (loopRun n h ic) := by
  obtain ⟨hl, e⟩ := loopMergesFrom_legal ic n w (trunk_rootsOf w)
  exact ⟨hl, e, by rw [loopRun, e]; exact foldl_merge_wf w hl⟩

theorem rootsOf_loopRun {h : Heap} (w : WF h) (ic : Heap → Nat → Bool) (n : Nat) :
    rootsOf (loopRun n h ic) = rootsOf h := by
  obtain ⟨hl, e, _⟩ := loopRun_legal w ic n
  rw [e, rootsOf_foldl w hl]

theorem loopRun_refines {h : Heap} (w : WF h) (icT : Tree → Tree → Bool) (n : Nat) :
    absF (loopRun n h (icOf icT)) (loopRun n h (icOf icT)).size (rootsOf (loopRun n h (icOf icT))) =
      pruneLoop icT n (absF h h.size (rootsOf h)) := by
  rw [rootsOf_loopRun w]
  exact loopRunFrom_refines icT n w (trunk_rootsOf w)

/-- the whole of `Dendrogram.prune` up to `_make_trunk` on the heap (`Heap.prune` with the merges the loop
    finds: loop, cache reset) is `pruneLoop` on the abstraction; the caches are sound afterwards -/
theorem heap_prune_refines {h : Heap} (w : WF h) (icT : Tree → Tree → Bool) (n : Nat) :
    Legal h (loopMerges n h (icOf icT)) ∧
    absF (h.prune (loopMerges n h (icOf icT))) (h.prune (loopMerges n h (icOf icT))).size
        (rootsOf (h.prune (loopMerges n h (icOf icT)))) =
      pruneLoop icT n (absF h h.size (rootsOf h)) ∧
    WF (h.prune (loopMerges n h (icOf icT))) ∧ Sound (h.prune (loopMerges n h (icOf icT))) := by
  obtain ⟨hl, e, _⟩ := loopRun_legal w (icOf icT) n
  refine ⟨hl, ?_, prune_sound h _ w hl⟩
  unfold Heap.prune
  rw [absF_finishPrune, ← e]
  exact loopRun_refines w icT n

/-! A fact about trees alone, here with its one user. -/
mutual
theorem size_eq_length : ∀ t : Tree, Tree.size t = (pre t).length
  | .node i o ks => by simp only [Tree.size, pre, List.length_cons, sizeL_eq_length ks]; omega
theorem sizeL_eq_length : ∀ f : List Tree, sizeL f = (preL f).length
  | [] => rfl
  | t :: ts => by simp only [sizeL, preL, List.length_append, size_eq_length t, sizeL_eq_length ts]
end

theorem sizeL_absF_lt {h : Heap} (w : WF h) {roots : List Nat} (t : Trunk h roots) :
    sizeL (absF h h.size roots) < h.size := by
  rw [sizeL_eq_length, ← List.length_map (f := Tree.id), ← idsBelow_eq_preL]
  exact idsBelow_length_lt w t _

/-- after `h.size - 1` rounds the generator returns: nothing is left to prune, on both levels -/
theorem loopRun_fixpoint {h : Heap} (w : WF h) (icT : Tree → Tree → Bool) {n : Nat} (hn : h.size ≤ n + 1) :
    scanFirst (loopRun n h (icOf icT)) (icOf icT (loopRun n h (icOf icT))) = none ∧
    pruneForest icT [] (pruneLoop icT n (absF h h.size (rootsOf h))) = none := by
  have hfix : pruneForest icT [] (pruneLoop icT n (absF h h.size (rootsOf h))) = none :=
    pruneLoop_fixpoint_of_le icT n _ (by have := sizeL_absF_lt w (trunk_rootsOf w); omega)
  refine ⟨?_, hfix⟩
  obtain ⟨_, _, w'⟩ := loopRun_legal w (icOf icT) n
  rw [← loopRun_refines w icT n, loopStep_refines w' (trunk_rootsOf w') icT, loopStepFrom] at hfix
  exact Option.map_eq_none_iff.1 (Option.map_eq_none_iff.1 hfix)

/-- the heap of the non-vacuity examples: the leaves `3` and `7` own one pixel, `2` and `4` own two -/
def h2 : Heap :=
  { objs := [ { id := 0, kids := [1, 2], own := [10] },
              { id := 1, parent := some 0, kids := [3, 4, 7], own := [11] },
              { id := 2, parent := some 0, own := [12, 22] },
              { id := 3, parent := some 1, own := [13] },
              { id := 4, parent := some 1, own := [14, 24] },
              { id := 7, parent := some 1, own := [17] } ],
    alive := [0, 1, 2, 3, 4, 7] }

def rk2 : Nat → Nat
  | 0 => 0 | 1 => 1 | 2 => 1 | _ => 2

theorem h2_wf : WF h2 := .of_links (.of_rank rk2 (by decide +kernel))

/-- `min_npix = 2` on a leaf (a leaf's pixels are its own pixels) -/
def npix2 : Tree → Tree → Bool := fun _ k => decide (2 ≤ k.own.length)

example : prefixIds h2 h2.size (rootsOf h2) = [0, 1, 3, 4, 7, 2] := by decide +kernel

/-- round 1: leaf `3` fails, its parent `1` has three children: only `3` is merged;
    round 2: leaf `7` fails, its parent `1` now has two children: both `4` and `7` are merged;
    round 3: nothing is found -/
example : scanFirst h2 (icOf npix2 h2) = some 3 ∧ mergeList h2 3 = [3] := by decide +kernel
example : scanFirst (stepH h2 3) (icOf npix2 (stepH h2 3)) = some 7 ∧ mergeList (stepH h2 3) 7 = [4, 7] := by
  decide +kernel
example : scanFirst (stepH (stepH h2 3) 7) (icOf npix2 (stepH (stepH h2 3) 7)) = none := by decide +kernel
example : loopMerges 6 h2 (icOf npix2) = [3, 4, 7] := by decide +kernel
example : (loopRun 6 h2 (icOf npix2)).alive = [0, 1, 2] := by decide +kernel

/-- both sides of `loopRun_refines` on `h2`, computed -/
example : absF (loopRun 6 h2 (icOf npix2)) (loopRun 6 h2 (icOf npix2)).size (rootsOf (loopRun 6 h2 (icOf npix2))) =
    [.node 0 [10] [.node 1 [11, 13, 14, 24, 17] [], .node 2 [12, 22] []]] := by rfl
example : pruneLoop npix2 6 (absF h2 h2.size (rootsOf h2)) =
    [.node 0 [10] [.node 1 [11, 13, 14, 24, 17] [], .node 2 [12, 22] []]] := by rfl
/-- one round is not enough -/
example : pruneLoop npix2 1 (absF h2 h2.size (rootsOf h2)) =
    [.node 0 [10] [.node 1 [11, 13] [.node 4 [14, 24] [], .node 7 [17] []], .node 2 [12, 22] []]] := by rfl
example : absF (loopRun 1 h2 (icOf npix2)) (loopRun 1 h2 (icOf npix2)).size (rootsOf (loopRun 1 h2 (icOf npix2))) =
    [.node 0 [10] [.node 1 [11, 13] [.node 4 [14, 24] [], .node 7 [17] []], .node 2 [12, 22] []]] := by rfl

example : absF (loopRun 6 h2 (icOf npix2)) (loopRun 6 h2 (icOf npix2)).size (rootsOf (loopRun 6 h2 (icOf npix2))) =
    pruneLoop npix2 6 (absF h2 h2.size (rootsOf h2)) := loopRun_refines h2_wf npix2 6
example : Legal h2 (loopMerges 6 h2 (icOf npix2)) := (loopRun_legal h2_wf (icOf npix2) 6).1

/-- `P35.h1` (`0 → [1, 2]`, `1 → [3, 4]`, `3 → [5]`, one pixel each): three rounds, `5`, then `3, 4`, then `1, 2` -/
example : prefixIds h1 h1.size (rootsOf h1) = [0, 1, 3, 5, 4, 2] := by decide +kernel
example : loopMerges 7 h1 (icOf npix2) = [5, 3, 4, 1, 2] := by decide +kernel
example : loopMerges 2 h1 (icOf npix2) = [5, 3, 4] := by decide +kernel
example : absF (loopRun 2 h1 (icOf npix2)) (loopRun 2 h1 (icOf npix2)).size (rootsOf (loopRun 2 h1 (icOf npix2))) =
    [.node 0 [10] [.node 1 [11, 13, 15, 14] [], .node 2 [12] []]] := by rfl
example : pruneLoop npix2 2 (absF h1 h1.size (rootsOf h1)) =
    [.node 0 [10] [.node 1 [11, 13, 15, 14] [], .node 2 [12] []]] := by rfl

/-! ### the criterion must be read on the *current* heap

With the criterion frozen on the initial heap (`fun _ => icOf icT h`) the refinement is FALSE: on `h3` the first
round merges the leaves `5` and `8` into `3`, which becomes a leaf of three pixels and passes `min_npix = 2`; the
frozen criterion still sees the one-pixel branch `3` of the initial heap, fails it and merges it into `1`. -/

def h3 : Heap :=
  { objs := [ { id := 0, kids := [1, 2], own := [10] },
              { id := 1, parent := some 0, kids := [3, 4, 6], own := [11] },
              { id := 2, parent := some 0, own := [12, 22] },
              { id := 3, parent := some 1, kids := [5, 8], own := [13] },
              { id := 4, parent := some 1, own := [14, 24] },
              { id := 6, parent := some 1, own := [16, 26] },
              { id := 5, parent := some 3, own := [15] },
              { id := 8, parent := some 3, own := [18] } ],
    alive := [0, 1, 2, 3, 4, 6, 5, 8] }

theorem h3_wf : WF h3 := .of_links (.of_rank id (by decide +kernel))

example : loopMerges 9 h3 (icOf npix2) = [5, 8] := by decide +kernel
example : loopMerges 9 h3 (fun _ => icOf npix2 h3) = [5, 8, 3] := by decide +kernel
/-- COUNTEREXAMPLE to the refinement with a criterion that is not re-evaluated -/
example :
    (preL (absF (loopRun 9 h3 (fun _ => icOf npix2 h3)) (loopRun 9 h3 (fun _ => icOf npix2 h3)).size
        (rootsOf (loopRun 9 h3 (fun _ => icOf npix2 h3))))).map Tree.id ≠
      (preL (pruneLoop npix2 9 (absF h3 h3.size (rootsOf h3)))).map Tree.id := by decide +kernel
/-- with the criterion read on the current heap both sides agree -/
example : (preL (absF (loopRun 9 h3 (icOf npix2)) (loopRun 9 h3 (icOf npix2)).size
      (rootsOf (loopRun 9 h3 (icOf npix2))))).map Tree.id = [0, 1, 3, 4, 6, 2] ∧
    (preL (pruneLoop npix2 9 (absF h3 h3.size (rootsOf h3)))).map Tree.id = [0, 1, 3, 4, 6, 2] := by decide +kernel

end P41
