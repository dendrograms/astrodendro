import ADModel.CachePix
import ADProofs.Links
import ADProofs.ListLemmas

/-!
# CachePixProofs (P33, property C14): the pixel-count and peak caches never give a stale answer

Model: `ADModel/CachePix.lean`.  The argument is that of CacheProofs.  `WF h`: identifiers of `h.objs` pairwise
distinct, and `h.links.WF` (ADProofs/Links.lean) field by field.  `Sound h`: every cached value of an alive object is
what the links and own lists say, and `_peak` set implies `_peak_subtree` set (`CacheOK`).  The specifications depend
on alive keys, identifiers and the parent / children / own pixels of every object only (`SameLinks`); a cached query
only adds entries that the heap it started from specifies (`Fills h h'`; for `get_peak` through the fill pass,
`fillPeaks_spec`).  A prune changes the links and resets every cache.
-/

namespace P33
open PHeap

theorem get_id {h : PHeap} {i : Nat} {o : PObj} (hget : h.get i = some o) : o.id = i := List.find?_key PObj.id hget

theorem get_update (h : PHeap) (i : Nat) (f : PObj → PObj) (hf : ∀ o, (f o).id = o.id) (j : Nat) :
    (h.update i f).get j = if j = i then (h.get i).map f else h.get j :=
  List.find?_key_update PObj.id f i (fun o e => (hf o).trans e) h.objs j

@[simp] theorem update_alive (h : PHeap) (i : Nat) (f : PObj → PObj) : (h.update i f).alive = h.alive := rfl

theorem update_ids (h : PHeap) (i : Nat) (f : PObj → PObj) (hf : ∀ o, (f o).id = o.id) :
    (h.update i f).objs.map (·.id) = h.objs.map (·.id) := by
  unfold PHeap.update
  exact List.map_key_map _ _ (by intro o; split <;> simp [hf]) _

@[simp] theorem update_size (h : PHeap) (i : Nat) (f : PObj → PObj) : (h.update i f).size = h.size := by
  simp [PHeap.update, PHeap.size]

structure SameLinks (h h' : PHeap) : Prop where
  alive : h'.alive = h.alive
  ids : h'.objs.map (·.id) = h.objs.map (·.id)
  links : ∀ i, (h'.get i).map (fun o => (o.parent, o.kids, o.own)) =
    (h.get i).map (fun o => (o.parent, o.kids, o.own))

theorem SameLinks.refl (h : PHeap) : SameLinks h h := ⟨rfl, rfl, fun _ => rfl⟩

theorem SameLinks.trans {h h' h'' : PHeap} (s : SameLinks h h') (t : SameLinks h' h'') : SameLinks h h'' :=
  ⟨t.alive.trans s.alive, t.ids.trans s.ids, fun i => (t.links i).trans (s.links i)⟩

theorem size_of_ids {h h' : PHeap} (e : h'.objs.map (·.id) = h.objs.map (·.id)) : h'.size = h.size := by
  have := congrArg List.length e
  simp only [List.length_map] at this
  simp [PHeap.size, this]

theorem SameLinks.size {h h' : PHeap} (s : SameLinks h h') : h'.size = h.size := size_of_ids s.ids

theorem SameLinks.get_some {h h' : PHeap} (s : SameLinks h h') {i : Nat} {o : PObj} (hg : h.get i = some o) :
    ∃ o', h'.get i = some o' ∧ o'.parent = o.parent ∧ o'.kids = o.kids ∧ o'.own = o.own := by
  simpa [hg] using s.links i

theorem SameLinks.get_none {h h' : PHeap} (s : SameLinks h h') {i : Nat} (hg : h.get i = none) :
    h'.get i = none := by
  simpa [hg] using s.links i

theorem sameLinks_update (h : PHeap) (i : Nat) (f : PObj → PObj) (hid : ∀ o, (f o).id = o.id)
    (hp : ∀ o, (f o).parent = o.parent) (hk : ∀ o, (f o).kids = o.kids) (ho : ∀ o, (f o).own = o.own) :
    SameLinks h (h.update i f) := by
  refine ⟨rfl, update_ids h i f hid, fun j => ?_⟩
  rw [get_update h i f hid]
  split
  · subst j; cases h.get i <;> simp [hp, hk, ho]
  · rfl

theorem specCount_same {h h' : PHeap} (s : SameLinks h h') (n i : Nat) :
    h'.specCount n i = h.specCount n i := by
  induction n generalizing i with
  | zero => rfl
  | succ n ih =>
    unfold PHeap.specCount
    cases hg : h.get i with
    | none => rw [s.get_none hg]
    | some o =>
      obtain ⟨o', hg', _, hk, ho⟩ := s.get_some hg
      rw [hg']; simp only [hk, ho]
      rw [List.map_congr_left fun c _ => ih c]

theorem specPeak_same {h h' : PHeap} (s : SameLinks h h') (i : Nat) :
    h'.specPeak i = h.specPeak i := by
  unfold PHeap.specPeak
  cases hg : h.get i with
  | none => rw [s.get_none hg]
  | some o =>
    obtain ⟨o', hg', _, _, ho⟩ := s.get_some hg
    rw [hg']; simp [ho]

theorem specPeakSub_same {h h' : PHeap} (s : SameLinks h h') (n i : Nat) :
    h'.specPeakSub n i = h.specPeakSub n i := by
  induction n generalizing i with
  | zero => rfl
  | succ n ih =>
    unfold PHeap.specPeakSub
    cases hg : h.get i with
    | none => rw [s.get_none hg]
    | some o =>
      obtain ⟨o', hg', _, hk, ho⟩ := s.get_some hg
      rw [hg']; simp only [hk, ho]
      rw [List.filterMap_congr' fun c _ => ih c]

def RankOK (h : PHeap) (rk : Nat → Nat) : Prop :=
  ∀ i ∈ h.alive, ∀ o, h.get i = some o → rk i < h.size ∧ ∀ p, o.parent = some p → rk p < rk i

structure WF (h : PHeap) : Prop where
  ids_nodup : (h.objs.map (·.id)).Nodup
  alive_nodup : h.alive.Nodup
  alive_get : ∀ i ∈ h.alive, ∃ o, h.get i = some o
  parent_ok : ∀ i ∈ h.alive, ∀ o, h.get i = some o → ∀ p, o.parent = some p →
    p ∈ h.alive ∧ ∃ po, h.get p = some po ∧ i ∈ po.kids
  kids_ok : ∀ i ∈ h.alive, ∀ o, h.get i = some o → ∀ c ∈ o.kids,
    c ∈ h.alive ∧ ∃ co, h.get c = some co ∧ co.parent = some i
  kids_nodup : ∀ i ∈ h.alive, ∀ o, h.get i = some o → o.kids.Nodup
  rank : ∃ rk, RankOK h rk

structure CacheOK (h : PHeap) (o : PObj) : Prop where
  npix : ∀ n, o.npixTot = some n → n = h.specCount h.size o.id
  peak : ∀ p, o.peak = some p → some p = h.specPeak o.id
  peakSub : ∀ q, o.peakSub = some q → some q = h.specPeakSub h.size o.id
  couple : o.peak.isSome → o.peakSub.isSome

def Sound (h : PHeap) : Prop := ∀ i ∈ h.alive, ∀ o, h.get i = some o → CacheOK h o

theorem sound_of_empty {h : PHeap}
    (he : ∀ o ∈ h.objs, o.id ∈ h.alive → o.npixTot = none ∧ o.peak = none ∧ o.peakSub = none) : Sound h := by
  intro i hi o hg
  obtain ⟨h1, h2, h3⟩ := he o (List.mem_of_find?_eq_some hg) (get_id hg ▸ hi)
  exact ⟨by simp [h1], by simp [h2], by simp [h3], by simp [h2]⟩

def _root_.PHeap.links (h : PHeap) : Links PObj := ⟨h.alive, h.size, h.get, PObj.parent, PObj.kids⟩

theorem WF.links {h : PHeap} (w : WF h) : h.links.WF := ⟨w.2, w.3, w.4, w.5, w.6, w.7⟩
theorem WF.of_links {h : PHeap} (hi : (h.objs.map (·.id)).Nodup) (w : h.links.WF) : WF h :=
  ⟨hi, w.1, w.2, w.3, w.4, w.5, w.6⟩

theorem WF.same {h h' : PHeap} (s : SameLinks h h') (w : WF h) : WF h' := by
  refine .of_links (s.ids ▸ w.ids_nodup) (w.links.congr (F' := h'.links) s.alive s.size fun i => ?_)
  have := congrArg (Option.map fun t : Option Nat × List Nat × List (Nat × Int) => (t.1, t.2.1)) (s.links i)
  rwa [Option.map_map, Option.map_map] at this

theorem WF.down_induction {h : PHeap} (w : WF h) {rk} (hr : RankOK h rk) {motive : Nat → Nat → Prop}
    (step : ∀ n i o, i ∈ h.alive → h.get i = some o → h.size ≤ n + 1 + rk i →
      (∀ c ∈ o.kids, c ∈ h.alive ∧ h.size ≤ n + rk c ∧ motive n c) → motive (n + 1) i) :
    ∀ n i, i ∈ h.alive → h.size ≤ n + rk i → motive n i :=
  w.links.down_induction hr step

theorem WF.kids_induction {h : PHeap} (w : WF h) {P : Nat → Prop}
    (step : ∀ i o, i ∈ h.alive → h.get i = some o → (∀ c ∈ o.kids, c ∈ h.alive ∧ P c) → P i) :
    ∀ i ∈ h.alive, P i :=
  w.links.kids_induction step

theorem CacheOK.same {h h' : PHeap} (s : SameLinks h h') {o : PObj} (c : CacheOK h o) : CacheOK h' o := by
  refine ⟨?_, ?_, ?_, c.couple⟩
  · intro n hn; rw [s.size, specCount_same s]; exact c.npix n hn
  · intro p hp; rw [specPeak_same s]; exact c.peak p hp
  · intro q hq; rw [s.size, specPeakSub_same s]; exact c.peakSub q hq

/-- "links unchanged": the conjunction that `C14_get_peak`, `C14_get_npix` and `fillPeaks_correct` write out in
    their statements (`Fills.done` and `SameLinks.unchanged`, stated with this name, prove it there as they stand) -/
def LinksUnchanged (h h' : PHeap) : Prop :=
  (∀ j, (h'.get j).map (fun o => (o.parent, o.kids, o.own)) =
      (h.get j).map (fun o => (o.parent, o.kids, o.own))) ∧ h'.alive = h.alive

theorem SameLinks.unchanged {h h' : PHeap} (s : SameLinks h h') : LinksUnchanged h h' := ⟨s.links, s.alive⟩

/-- what cached queries make of a sound `h` -/
structure Fills (h h' : PHeap) : Prop where
  same : SameLinks h h'
  ok : ∀ j ∈ h.alive, ∀ o', h'.get j = some o' → CacheOK h o'

theorem Fills.refl {h : PHeap} (hs : Sound h) : Fills h h := ⟨.refl h, hs⟩

theorem Fills.done {h h' : PHeap} (f : Fills h h') (w : WF h) : WF h' ∧ Sound h' ∧ LinksUnchanged h h' :=
  ⟨w.same f.same, fun j hj o' hg' => (f.ok j (f.same.alive ▸ hj) o' hg').same f.same, f.same.unchanged⟩

theorem specCount_succ {h : PHeap} {i : Nat} {o : PObj} (hg : h.get i = some o) (n : Nat) :
    h.specCount (n + 1) i = o.own.length + (o.kids.map (h.specCount n)).sum := by
  simp [PHeap.specCount, hg]

/-- `max(children's subtree peaks …)` then `max(that, own peak)` -/
def combine (ownPk kidPk : Option (Nat × Int)) : Option (Nat × Int) :=
  match kidPk with
  | none => ownPk
  | some c =>
    match ownPk with
    | none => some c
    | some p => some (maxFirst c p)

theorem specPeakSub_succ {h : PHeap} {i : Nat} {o : PObj} (hg : h.get i = some o) (n : Nat) :
    h.specPeakSub (n + 1) i = combine (firstMax o.own) (firstMax (o.kids.filterMap (h.specPeakSub n))) := by
  simp only [PHeap.specPeakSub, hg]; rfl

theorem specCount_fuel (h : PHeap) (hwf : WF h) (i : Nat) (hi : i ∈ h.alive) (f : Nat) (hf : h.size ≤ f) :
    h.specCount f i = h.specCount h.size i := by
  obtain ⟨rk, hr⟩ := hwf.rank
  exact hwf.links.fuel_stable hr (fun n i => h.specCount n i) (fun _ o f => o.own.length + (o.kids.map f).sum)
    (fun n _ _ hg => specCount_succ hg n)
    (fun _ o _ _ _ (hfg : ∀ c ∈ o.kids, _) => by rw [List.map_congr_left hfg])
    f i hi (Nat.le_add_right_of_le hf) h.size (Nat.le_add_right _ _)

theorem specPeakSub_fuel (h : PHeap) (hwf : WF h) (i : Nat) (hi : i ∈ h.alive) (f : Nat) (hf : h.size ≤ f) :
    h.specPeakSub f i = h.specPeakSub h.size i := by
  obtain ⟨rk, hr⟩ := hwf.rank
  exact hwf.links.fuel_stable hr (fun n i => h.specPeakSub n i)
    (fun _ o f => combine (firstMax o.own) (firstMax (o.kids.filterMap f)))
    (fun n _ _ hg => specPeakSub_succ hg n)
    (fun _ o _ _ _ (hfg : ∀ c ∈ o.kids, _) => by rw [List.filterMap_congr' hfg])
    f i hi (Nat.le_add_right_of_le hf) h.size (Nat.le_add_right _ _)

theorem combine_isSome {p : Nat × Int} (k : Option (Nat × Int)) : (combine (some p) k).isSome := by
  cases k <;> rfl

theorem specCount_unfold {h : PHeap} (w : WF h) {i : Nat} {o : PObj} (hi : i ∈ h.alive) (hg : h.get i = some o) :
    h.specCount h.size i = o.own.length + (o.kids.map (h.specCount h.size)).sum :=
  w.links.fuel_unfold (fun n i => h.specCount n i) (fun _ o f => o.own.length + (o.kids.map f).sum)
    (fun n _ _ hg => specCount_succ hg n)
    (fun _ o _ _ _ (hfg : ∀ c ∈ o.kids, _) => by rw [List.map_congr_left hfg]) hi hg

theorem specPeakSub_unfold {h : PHeap} (w : WF h) {i : Nat} {o : PObj} (hi : i ∈ h.alive)
    (hg : h.get i = some o) :
    h.specPeakSub h.size i = combine (firstMax o.own) (firstMax (o.kids.filterMap (h.specPeakSub h.size))) :=
  w.links.fuel_unfold (fun n i => h.specPeakSub n i)
    (fun _ o f => combine (firstMax o.own) (firstMax (o.kids.filterMap f)))
    (fun n _ _ hg => specPeakSub_succ hg n)
    (fun _ o _ _ _ (hfg : ∀ c ∈ o.kids, _) => by rw [List.filterMap_congr' hfg]) hi hg

theorem specPeak_get {h : PHeap} {i : Nat} {o : PObj} (hg : h.get i = some o) :
    h.specPeak i = firstMax o.own := by
  simp [PHeap.specPeak, hg]

/-- `PHeap.getNpix` has no loop of its own (the code asks `self.values(subtree=True).size`): on a miss it stores
    `specCount h fuel i` itself, so the answer is the specification by `rfl` and only the bookkeeping of the cache
    is proved here -/
theorem getNpix_fills {h : PHeap} {i : Nat} (hwf : WF h) (hs : Sound h) (hi : i ∈ h.alive) :
    (h.getNpix h.size i).2 = some (h.specCount h.size i) ∧ Fills h (h.getNpix h.size i).1 := by
  obtain ⟨o, hg⟩ := hwf.alive_get i hi
  have hc := hs i hi o hg
  unfold PHeap.getNpix
  simp only [hg]
  cases hn : o.npixTot with
  | some n => exact ⟨by rw [hc.npix n hn, get_id hg], .refl hs⟩
  | none =>
    refine ⟨rfl, sameLinks_update h i _ (fun _ => rfl) (fun _ => rfl) (fun _ => rfl) (fun _ => rfl),
      fun j hj o' hg' => ?_⟩
    simp only [] at hg'
    rw [get_update h i (fun o => { o with npixTot := some (h.specCount h.size i) }) (fun _ => rfl)] at hg'
    split at hg'
    · subst j
      rw [hg] at hg'
      cases hg'
      exact ⟨fun n hn' => by cases hn'; rw [get_id hg], hc.peak, hc.peakSub, hc.couple⟩
    · exact hs j hj o' hg'

/-- `d` is in the subtree of `i`, `i` itself included -/
inductive Desc (h : PHeap) : Nat → Nat → Prop
  | refl (i : Nat) : Desc h i i
  | kid {i : Nat} {o : PObj} {c d : Nat} : h.get i = some o → c ∈ o.kids → Desc h c d → Desc h i d

theorem Desc.cases_kid {h : PHeap} {i d : Nat} {o : PObj} (hg : h.get i = some o) (t : Desc h i d)
    (hne : d ≠ i) : ∃ c ∈ o.kids, Desc h c d := by
  cases t with
  | refl => exact absurd rfl hne
  | kid hg' hc t' =>
    rw [hg] at hg'; cases hg'
    exact ⟨_, hc, t'⟩

def Filled (h0 h' : PHeap) (d : Nat) : Prop :=
  ∃ o', h'.get d = some o' ∧ o'.peak = h0.specPeak d ∧ o'.peakSub = h0.specPeakSub h0.size d

theorem Filled.congr {h0 h' h'' : PHeap} {d : Nat} (e : h''.get d = h'.get d) (f : Filled h0 h' d) :
    Filled h0 h'' d := by
  obtain ⟨o', h1, h2⟩ := f
  exact ⟨o', by rw [e]; exact h1, h2⟩

/-- result of a fill pass from `h` to `h'` over the set `S` (links as in `h0`) -/
structure FillRes (h0 h h' : PHeap) (S : Nat → Prop) : Prop where
  same : SameLinks h0 h'
  npix : ∀ d, (h'.get d).map (·.npixTot) = (h.get d).map (·.npixTot)
  inn : ∀ d, S d → Filled h0 h' d
  out : ∀ d, ¬ S d → h'.get d = h.get d

theorem fold_fill {h0 : PHeap} {fuel : Nat} (ks : List Nat)
    (hrec : ∀ c ∈ ks, ∀ h, SameLinks h0 h → FillRes h0 h (fillPeaks h fuel c) (Desc h0 c))
    (h : PHeap) (s : SameLinks h0 h) :
    FillRes h0 h (ks.foldl (fun acc c => fillPeaks acc fuel c) h) (fun d => ∃ c ∈ ks, Desc h0 c d) := by
  induction ks generalizing h with
  | nil => exact ⟨s, fun _ => rfl, fun d hd => by simp at hd, fun _ _ => rfl⟩
  | cons c ks ih =>
    simp only [List.foldl_cons]
    have r1 := hrec c List.mem_cons_self h s
    have r2 := ih (fun c' hc' => hrec c' (List.mem_cons_of_mem _ hc')) (fillPeaks h fuel c) r1.same
    refine ⟨r2.same, fun d => (r2.npix d).trans (r1.npix d), ?_, ?_⟩
    · intro d hd
      by_cases hk : ∃ c' ∈ ks, Desc h0 c' d
      · exact r2.inn d hk
      · obtain ⟨c', hc', t⟩ := hd
        rcases List.mem_cons.1 hc' with rfl | hc'
        · exact (r1.inn d t).congr (r2.out d hk)
        · exact absurd ⟨c', hc', t⟩ hk
    · intro d hd
      have h1 : ¬ ∃ c' ∈ ks, Desc h0 c' d := fun ⟨c', hc', t⟩ => hd ⟨c', List.mem_cons_of_mem _ hc', t⟩
      have h2 : ¬ Desc h0 c d := fun t => hd ⟨c, List.mem_cons_self, t⟩
      rw [r2.out d h1, r1.out d h2]

theorem fillOne_eq {h : PHeap} {i : Nat} {o : PObj} (hg : h.get i = some o) :
    h.fillOne i = h.update i (fun o' => { o' with
      peak := firstMax o.own,
      peakSub := combine (firstMax o.own)
        (firstMax (o.kids.filterMap fun c => (h.get c).bind (·.peakSub))) }) := by
  unfold PHeap.fillOne
  simp only [hg]
  rfl

theorem fillPeaks_spec {h0 : PHeap} (w : WF h0) {rk} (hr : RankOK h0 rk) :
    ∀ (fuel i : Nat), i ∈ h0.alive → h0.size ≤ fuel + rk i → ∀ h : PHeap, SameLinks h0 h →
      FillRes h0 h (fillPeaks h fuel i) (Desc h0 i) := by
  refine w.down_induction hr ?_
  intro fuel i o0 hi hg0 _ ih h s
  obtain ⟨o, hg, hpo, hko, hoo⟩ := s.get_some hg0
  unfold PHeap.fillPeaks
  simp only [hg]
  have r1 := fold_fill (h0 := h0) (fuel := fuel) o.kids (fun c hck h' s' => (ih c (hko ▸ hck)).2.2 h' s') h s
  generalize o.kids.foldl (fun acc c => fillPeaks acc fuel c) h = h1 at r1
  obtain ⟨o1, hg1, _, hk1, ho1⟩ := r1.same.get_some hg0
  rw [fillOne_eq hg1]
  -- what `fillOne` writes is what `h0` specifies, the children having just been filled
  have e1 : firstMax o1.own = h0.specPeak i := by rw [ho1, specPeak_get hg0]
  have e2 : combine (firstMax o1.own) (firstMax (o1.kids.filterMap fun c => (h1.get c).bind (·.peakSub))) =
      h0.specPeakSub h0.size i := by
    rw [specPeakSub_unfold w hi hg0, ho1, hk1]
    congr 2
    refine List.filterMap_congr' fun c hc => ?_
    obtain ⟨oc, hgc, _, hps⟩ := r1.inn c ⟨c, hko ▸ hc, Desc.refl c⟩
    rw [hgc]; exact hps
  rw [e2, e1]
  have gu := get_update h1 i (fun o' => { o' with peak := h0.specPeak i, peakSub := h0.specPeakSub h0.size i })
    (fun _ => rfl)
  refine ⟨r1.same.trans (sameLinks_update h1 i _ (fun _ => rfl) (fun _ => rfl) (fun _ => rfl) (fun _ => rfl)),
    fun d => ?_, fun d hd => ?_, fun d hd => ?_⟩
  · rw [gu d, ← r1.npix d]
    split
    · subst d; rw [hg1]; rfl
    · rfl
  · by_cases hdi : d = i
    · subst d
      exact ⟨_, by rw [gu i, if_pos rfl, hg1]; rfl, rfl, rfl⟩
    · obtain ⟨c, hc, t⟩ := Desc.cases_kid hg0 hd hdi
      exact (r1.inn d ⟨c, hko ▸ hc, t⟩).congr (by rw [gu d, if_neg hdi])
  · have hdi : d ≠ i := fun e => hd (e ▸ Desc.refl d)
    rw [gu d, if_neg hdi]
    exact r1.out d fun ⟨c, hc, t⟩ => hd (Desc.kid hg0 (hko ▸ hc) t)

theorem fillPeaks_res {h : PHeap} (w : WF h) {i : Nat} (hi : i ∈ h.alive) :
    FillRes h h (h.fillPeaks h.size i) (Desc h i) := by
  obtain ⟨rk, hr⟩ := w.rank
  exact fillPeaks_spec w hr h.size i hi (by omega) h (.refl h)

/-- after the fill loop of `get_peak` every object of the subtree of `i` carries its specified `_peak` and
    `_peak_subtree`; nothing outside the subtree, no link and no `_npix_total` changes -/
theorem fillPeaks_correct (h : PHeap) (hwf : WF h) (i : Nat) (hi : i ∈ h.alive) :
    let h' := h.fillPeaks h.size i
    (∀ d, Desc h i d → ∃ o', h'.get d = some o' ∧ o'.peak = h.specPeak d ∧
        o'.peakSub = h.specPeakSub h.size d) ∧
    (∀ d, ¬ Desc h i d → h'.get d = h.get d) ∧
    (∀ d, (h'.get d).map (·.npixTot) = (h.get d).map (·.npixTot)) ∧
    ((∀ j, (h'.get j).map (fun o => (o.parent, o.kids, o.own)) =
        (h.get j).map (fun o => (o.parent, o.kids, o.own))) ∧ h'.alive = h.alive) := by
  have r := fillPeaks_res hwf hi
  exact ⟨r.inn, r.out, r.npix, r.same.unchanged⟩

/-- the first conjunct of `fillPeaks_correct` with the specification evaluated on the heap after the fill -/
theorem fillPeaks_correct' (h : PHeap) (hwf : WF h) (i : Nat) (hi : i ∈ h.alive) :
    let h' := h.fillPeaks h.size i
    ∀ d, Desc h i d → ∃ o', h'.get d = some o' ∧ o'.peak = h'.specPeak d ∧
        o'.peakSub = h'.specPeakSub h'.size d := by
  have r := fillPeaks_res hwf hi
  intro h' d hd
  obtain ⟨o', h1, h2, h3⟩ := r.inn d hd
  exact ⟨o', h1, by rw [specPeak_same r.same]; exact h2, by rw [r.same.size, specPeakSub_same r.same]; exact h3⟩

theorem specPeakSub_isSome_of_peak {h : PHeap} (w : WF h) {i : Nat} (hi : i ∈ h.alive)
    (hp : (h.specPeak i).isSome) : (h.specPeakSub h.size i).isSome := by
  obtain ⟨o, hg⟩ := w.alive_get i hi
  rw [specPeak_get hg] at hp
  rw [specPeakSub_unfold w hi hg]
  obtain ⟨p, hp'⟩ := Option.isSome_iff_exists.1 hp
  rw [hp']; exact combine_isSome _

theorem getPeak_fills {h : PHeap} {i : Nat} (hwf : WF h) (hs : Sound h) (hi : i ∈ h.alive) (sub : Bool) :
    (h.getPeak h.size i sub).2 = (if sub then h.specPeakSub h.size i else h.specPeak i) ∧
      Fills h (h.getPeak h.size i sub).1 := by
  obtain ⟨o, hg⟩ := hwf.alive_get i hi
  have hoid := get_id hg
  have hc := hs i hi o hg
  unfold PHeap.getPeak
  simp only [hg]
  cases hp : o.peak with
  | some p =>
    simp only [Option.isNone_some, Bool.false_eq_true, if_false, hg, Option.bind_some]
    refine ⟨?_, .refl hs⟩
    cases sub with
    | false => simp only [Bool.false_eq_true, if_false]; rw [hp, hc.peak p hp, hoid]
    | true =>
      simp only [if_true]
      obtain ⟨q, hq⟩ := Option.isSome_iff_exists.1 (hc.couple (by simp [hp]))
      rw [hq, hc.peakSub q hq, hoid]
  | none =>
    simp only [Option.isNone_none, if_true]
    have fr := fillPeaks_res hwf hi
    refine ⟨?_, fr.same, fun j hj o' hg' => ?_⟩
    · obtain ⟨o', h1, h2, h3⟩ := fr.inn i (Desc.refl i)
      rw [h1]
      cases sub <;> simp [h2, h3]
    · by_cases hd : Desc h i j
      · -- below `i`: both peaks are the specified ones, `_npix_total` is as it was
        obtain ⟨_, h1, h2, h3⟩ := fr.inn j hd
        cases hg'.symm.trans h1
        obtain rfl := get_id hg'
        obtain ⟨oj, hgj⟩ := hwf.alive_get _ hj
        have hnp : o'.npixTot = oj.npixTot := by simpa [hg', hgj] using fr.npix o'.id
        exact ⟨fun n hn => get_id hgj ▸ (hs _ hj oj hgj).npix n (hnp ▸ hn), fun p hp' => hp'.symm.trans h2,
          fun q hq => hq.symm.trans h3, fun hps => h3 ▸ specPeakSub_isSome_of_peak hwf hj (h2 ▸ hps)⟩
      · exact hs j hj o' (by rw [← fr.out j hd]; exact hg')

/-- what `mergeWithParent m` does to the object with identifier `x` (`mo` = the merged object,
    `p` = its parent) -/
def mergeF (m p : Nat) (mo : PObj) (x : Nat) (o : PObj) : PObj :=
  let o1 := if x = p then
      { resetCache { o with own := o.own ++ mo.own } with kids := o.kids.erase m ++ mo.kids }
    else o
  if x ∈ mo.kids then { o1 with parent := some p } else o1

theorem mergeF_fields (m p : Nat) (mo : PObj) (x : Nat) (o : PObj) :
    (mergeF m p mo x o).id = o.id ∧
    (mergeF m p mo x o).parent = (if x ∈ mo.kids then some p else o.parent) ∧
    (mergeF m p mo x o).kids = (if x = p then o.kids.erase m ++ mo.kids else o.kids) ∧
    (mergeF m p mo x o).own = (if x = p then o.own ++ mo.own else o.own) ∧
    (mergeF m p mo x o).npixTot = (if x = p then none else o.npixTot) := by
  unfold mergeF resetCache; split <;> split <;> exact ⟨rfl, rfl, rfl, rfl, rfl⟩

theorem mergeF_id (m p : Nat) (mo : PObj) (x : Nat) (o : PObj) : (mergeF m p mo x o).id = o.id :=
  (mergeF_fields m p mo x o).1

theorem mergeF_parent (m p : Nat) (mo : PObj) (x : Nat) (o : PObj) :
    (mergeF m p mo x o).parent = if x ∈ mo.kids then some p else o.parent := (mergeF_fields m p mo x o).2.1

theorem mergeF_kids (m p : Nat) (mo : PObj) (x : Nat) (o : PObj) :
    (mergeF m p mo x o).kids = if x = p then o.kids.erase m ++ mo.kids else o.kids := (mergeF_fields m p mo x o).2.2.1

theorem mergeF_own (m p : Nat) (mo : PObj) (x : Nat) (o : PObj) :
    (mergeF m p mo x o).own = if x = p then o.own ++ mo.own else o.own := (mergeF_fields m p mo x o).2.2.2.1

theorem mergeF_npix (m p : Nat) (mo : PObj) (x : Nat) (o : PObj) :
    (mergeF m p mo x o).npixTot = if x = p then none else o.npixTot := (mergeF_fields m p mo x o).2.2.2.2

theorem foldl_setParent_eq (p : Nat) (ks : List Nat) (h : PHeap) :
    ks.foldl (fun acc c => acc.update c (fun co => { co with parent := some p })) h =
      { h with objs := h.objs.map fun o => if o.id ∈ ks then { o with parent := some p } else o } := by
  induction ks generalizing h with
  | nil => simp
  | cons c ks ih =>
    rw [List.foldl_cons, ih]
    simp only [PHeap.update, List.map_map]
    congr 1
    refine List.map_congr_left fun o _ => ?_
    by_cases hc : o.id = c <;> simp [hc]

theorem merge_eq {h : PHeap} {m p : Nat} {mo : PObj} (hgm : h.get m = some mo) (hmp : mo.parent = some p) :
    h.mergeWithParent m = { objs := h.objs.map fun o => mergeF m p mo o.id o, alive := h.alive.erase m } := by
  unfold PHeap.mergeWithParent
  simp only [hgm, hmp]
  rw [foldl_setParent_eq]
  simp only [PHeap.update, List.map_map]
  congr 1
  refine List.map_congr_left fun o _ => ?_
  unfold mergeF
  by_cases hp : o.id = p <;> simp only [beq_iff_eq, resetCache, Function.comp_apply, hp, ↓reduceIte]

theorem merge_get {h : PHeap} {m p : Nat} {mo : PObj} (hgm : h.get m = some mo) (hmp : mo.parent = some p)
    (x : Nat) : (h.mergeWithParent m).get x = (h.get x).map (mergeF m p mo x) := by
  rw [merge_eq hgm hmp]
  exact List.find?_key_map' PObj.id (mergeF m p mo) (mergeF_id m p mo) h.objs x

theorem merge_alive {h : PHeap} {m p : Nat} {mo : PObj} (hgm : h.get m = some mo) (hmp : mo.parent = some p) :
    (h.mergeWithParent m).alive = h.alive.erase m := by
  rw [merge_eq hgm hmp]

theorem merge_ids {h : PHeap} {m p : Nat} {mo : PObj} (hgm : h.get m = some mo) (hmp : mo.parent = some p) :
    (h.mergeWithParent m).objs.map (·.id) = h.objs.map (·.id) := by
  rw [merge_eq hgm hmp]
  exact List.map_key_map _ _ (fun o => mergeF_id m p mo o.id o) h.objs

theorem legal_data {h : PHeap} (hwf : WF h) {m : Nat} (hm : m ∈ h.alive)
    (hp : (h.get m).bind (·.parent) ≠ none) :
    ∃ mo p po, h.get m = some mo ∧ mo.parent = some p ∧ p ∈ h.alive ∧ h.get p = some po ∧ m ∈ po.kids := by
  obtain ⟨mo, hgm⟩ := hwf.alive_get m hm
  rw [hgm] at hp
  obtain ⟨p, hmp⟩ := Option.ne_none_iff_exists'.mp hp
  simp only [Option.bind_some] at hmp
  obtain ⟨hpa, po, hgp, hmk⟩ := hwf.parent_ok m hm mo hgm p hmp
  exact ⟨mo, p, po, hgm, hmp, hpa, hgp, hmk⟩

theorem mergeWithParent_wf (h : PHeap) (m : Nat) (hwf : WF h) (hm : m ∈ h.alive)
    (hp : (h.get m).bind (·.parent) ≠ none) : WF (h.mergeWithParent m) := by
  obtain ⟨mo, p, po, hgm, hmp, -⟩ := legal_data hwf hm hp
  have hids := merge_ids hgm hmp
  exact .of_links (hids ▸ hwf.ids_nodup)
    (hwf.links.contract hm hgm hmp (merge_alive hgm hmp) (size_of_ids hids) (mergeF m p mo)
      (merge_get hgm hmp) (mergeF_parent m p mo) (mergeF_kids m p mo))

/-- every merge of the list addresses an alive object with a parent, at its turn (under `WF` the
    parent is then alive too: `legal_data`) -/
def Legal : PHeap → List Nat → Prop
  | _, [] => True
  | h, m :: ms => m ∈ h.alive ∧ (h.get m).bind (·.parent) ≠ none ∧ Legal (h.mergeWithParent m) ms

theorem foldl_merge_wf {h : PHeap} {ms : List Nat} (hwf : WF h) (hl : Legal h ms) :
    WF (ms.foldl PHeap.mergeWithParent h) := by
  induction ms generalizing h with
  | nil => exact hwf
  | cons m ms ih => exact ih (mergeWithParent_wf _ _ hwf hl.1 hl.2.1) hl.2.2

/-- what `finishPrune` does to an object -/
def finishF (h : PHeap) (o : PObj) : PObj := if h.alive.contains o.id then resetCache o else o

theorem finishF_id (h : PHeap) (o : PObj) : (finishF h o).id = o.id := by
  unfold finishF resetCache; split <;> rfl

theorem finishPrune_get (h : PHeap) (x : Nat) : h.finishPrune.get x = (h.get x).map (finishF h) := by
  unfold PHeap.finishPrune PHeap.get
  exact List.find?_key_map PObj.id (finishF h) (finishF_id h) h.objs x

theorem finishPrune_same (h : PHeap) : SameLinks h h.finishPrune := by
  refine ⟨rfl, List.map_key_map _ (finishF h) (finishF_id h) h.objs, fun x => ?_⟩
  rw [finishPrune_get]
  cases h.get x with
  | none => rfl
  | some o =>
    simp only [Option.map_some, Option.some.injEq]
    unfold finishF resetCache; split <;> rfl

theorem finishPrune_resets_all (g : PHeap) :
    ∀ o ∈ g.finishPrune.objs, o.id ∈ g.finishPrune.alive →
      o.npixTot = none ∧ o.peak = none ∧ o.peakSub = none := by
  intro o ho ha
  obtain ⟨o0, _, rfl⟩ := List.mem_map.mp (show o ∈ g.objs.map (finishF g) from ho)
  rw [finishF, if_pos (List.contains_iff_mem.2 (finishF_id g o0 ▸ ha))]
  exact ⟨rfl, rfl, rfl⟩

theorem finishPrune_sound (h : PHeap) : Sound h.finishPrune := sound_of_empty (finishPrune_resets_all h)

theorem prune_sound (h : PHeap) (hwf : WF h) (ms : List Nat) (hl : Legal h ms) :
    WF (h.prune ms) ∧ Sound (h.prune ms) :=
  ⟨(foldl_merge_wf hwf hl).same (finishPrune_same _), finishPrune_sound _⟩

def LegalOp (h : PHeap) : POp → Prop
  | .npix i => i ∈ h.alive
  | .peak i _ => i ∈ h.alive
  | .prune ms => Legal h ms

def LegalOps : PHeap → List POp → Prop
  | _, [] => True
  | h, op :: ops => LegalOp h op ∧ LegalOps (h.step op).1 ops

def run : PHeap → List POp → List (PAns × PAns)
  | _, [] => []
  | h, op :: ops => ((h.step op).2, h.specAns op) :: run (h.step op).1 ops

theorem step_sound (h : PHeap) (op : POp) (hwf : WF h) (hs : Sound h) (hl : LegalOp h op) :
    (h.step op).2 = h.specAns op ∧ WF (h.step op).1 ∧ Sound (h.step op).1 := by
  cases op with
  | npix i =>
    obtain ⟨o, hg⟩ := hwf.alive_get i hl
    obtain ⟨h1, f⟩ := getNpix_fills hwf hs hl
    exact ⟨by simp [PHeap.step, PHeap.specAns, hg, h1], (f.done hwf).1, (f.done hwf).2.1⟩
  | peak i sub =>
    obtain ⟨h1, f⟩ := getPeak_fills hwf hs hl sub
    exact ⟨by simp [PHeap.step, PHeap.specAns, h1], (f.done hwf).1, (f.done hwf).2.1⟩
  | prune ms =>
    obtain ⟨h2, h3⟩ := prune_sound h hwf ms hl
    exact ⟨rfl, h2, h3⟩

theorem history_trace (h : PHeap) (ops : List POp) (hwf : WF h) (hs : Sound h) (hleg : LegalOps h ops) :
    (∀ pr ∈ run h ops, pr.1 = pr.2) ∧
      WF (ops.foldl (fun a op => (a.step op).1) h) ∧ Sound (ops.foldl (fun a op => (a.step op).1) h) := by
  induction ops generalizing h with
  -- a bare `nofun` would first split the pair of answers into its cases
  | nil => exact ⟨fun _ => nofun, hwf, hs⟩
  | cons op ops ih =>
    obtain ⟨h1, h2, h3⟩ := step_sound h op hwf hs hleg.1
    obtain ⟨h4, h5⟩ := ih _ h2 h3 hleg.2
    exact ⟨List.forall_mem_cons.2 ⟨h1, h4⟩, h5⟩

/-- along every legal history from a well-formed heap with sound caches, every answer equals
    the answer computed from the live links and own lists at that moment -/
theorem history_sound (h : PHeap) (ops : List POp) (hwf : WF h) (hs : Sound h) (hleg : LegalOps h ops) :
    ∀ pr ∈ run h ops, pr.1 = pr.2 := (history_trace h ops hwf hs hleg).1

theorem history_invariant (h : PHeap) (ops : List POp) (hwf : WF h) (hs : Sound h) (hleg : LegalOps h ops) :
    WF (ops.foldl (fun a op => (a.step op).1) h) ∧ Sound (ops.foldl (fun a op => (a.step op).1) h) :=
  (history_trace h ops hwf hs hleg).2

/-- the merge alone (without the final reset) does not change the subtree pixel count of any surviving object -/
theorem merge_keeps_count (h : PHeap) (hwf : WF h) (m : Nat) (hm : m ∈ h.alive)
    (hp : (h.get m).bind (·.parent) ≠ none) :
    ∀ j ∈ (h.mergeWithParent m).alive,
      (h.mergeWithParent m).specCount (h.mergeWithParent m).size j = h.specCount h.size j := by
  obtain ⟨mo, p, po, hgm, hmp, hpa, hgp, hmk⟩ := legal_data hwf hm hp
  have w' := mergeWithParent_wf h m hwf hm hp
  -- children first in the forest after the merge: there the children of `m` are children of `p`
  refine w'.kids_induction ?_
  intro j o' hj hg' ih
  have hj' := hwf.alive_nodup.mem_erase_iff.1 (merge_alive hgm hmp ▸ hj)
  obtain ⟨o, hg⟩ := hwf.alive_get j hj'.2
  obtain rfl : mergeF m p mo j o = o' := by simpa [merge_get hgm hmp, hg] using hg'
  rw [specCount_unfold w' hj hg', specCount_unfold hwf hj'.2 hg, List.map_congr_left fun c hc => (ih c hc).2,
    mergeF_own, mergeF_kids]
  by_cases hjp : j = p
  · subst hjp
    rw [hgp] at hg; cases hg
    -- `m` is a child of `p`: its count leaves the sum over the children and comes back as own pixels and grandchildren
    rw [if_pos rfl, if_pos rfl, List.length_append, List.map_append, List.sum_append,
      ((List.perm_cons_erase hmk).map (h.specCount h.size)).sum_nat, List.map_cons, List.sum_cons,
      specCount_unfold hwf hm hgm]
    omega
  · rw [if_neg hjp, if_neg hjp]

/-- so the `_npix_total` caches stay sound across a legal merge even without the reset of `finishPrune` (the
    parent's cache is reset by `_merge` itself) -/
theorem merge_keeps_count_sound (h : PHeap) (hwf : WF h) (m : Nat) (hm : m ∈ h.alive)
    (hp : (h.get m).bind (·.parent) ≠ none)
    (hs : ∀ j ∈ h.alive, ∀ o, h.get j = some o → ∀ n, o.npixTot = some n → n = h.specCount h.size j) :
    ∀ j ∈ (h.mergeWithParent m).alive, ∀ o', (h.mergeWithParent m).get j = some o' →
      ∀ n, o'.npixTot = some n → n = (h.mergeWithParent m).specCount (h.mergeWithParent m).size j := by
  intro j hj o' hg' n hn
  rw [merge_keeps_count h hwf m hm hp j hj]
  obtain ⟨mo, p, po, hgm, hmp, hpa, hgp, hmk⟩ := legal_data hwf hm hp
  rw [merge_alive hgm hmp] at hj
  have hj' := hwf.alive_nodup.mem_erase_iff.1 hj
  obtain ⟨o, hg⟩ := hwf.alive_get j hj'.2
  rw [merge_get hgm hmp, hg] at hg'
  simp only [Option.map_some, Option.some.injEq] at hg'
  subst hg'
  rw [mergeF_npix] at hn
  split at hn
  · cases hn
  · exact hs j hj'.2 o hg n hn

/-- a branch `0` with two leaves `1`, `2`; the two leaves tie at value 5, the branch's own pixels tie
    at value 3 -/
def hEx : PHeap :=
  { objs := [ { id := 0, kids := [1, 2], own := [(10, 3), (11, 3)] },
              { id := 1, parent := some 0, own := [(20, 5), (21, 5)] },
              { id := 2, parent := some 0, own := [(30, 5), (31, 2)] } ],
    alive := [0, 1, 2] }

def opsEx : List POp := [.peak 0 true, .npix 0, .prune [1], .peak 0 true, .npix 0]

theorem hEx_wf : WF hEx := .of_links (by decide +kernel) (.of_rank id (by decide +kernel))

theorem hEx_sound : Sound hEx := sound_of_empty (by decide +kernel)

theorem hEx_legal : LegalOps hEx opsEx := by
  simp only [opsEx, LegalOps, LegalOp, Legal]; decide +kernel

/-- Before the prune the subtree peak of the branch is the first pixel of the first leaf (the leaves tie at 5).
    After pruning leaf `1` its pixels belong to the branch (own peak `(20, 5)`), and the peak `(30, 5)` of the
    remaining leaf `2` wins the tie against the own peak. -/
example : run hEx opsEx =
    [(.p (some (20, 5)), .p (some (20, 5))), (.n (some 6), .n (some 6)), (.unit, .unit),
     (.p (some (30, 5)), .p (some (30, 5))), (.n (some 6), .n (some 6))] := by decide +kernel

example : ∀ pr ∈ run hEx opsEx, pr.1 = pr.2 := by decide +kernel

/-- the same as an instance of `history_sound`: `hEx` and `opsEx` meet its hypotheses -/
example : ∀ pr ∈ run hEx opsEx, pr.1 = pr.2 := history_sound hEx opsEx hEx_wf hEx_sound hEx_legal

end P33
