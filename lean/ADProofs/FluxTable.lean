import ADModel.Flux
/-!
# ADProofs.FluxTable — the error table of `compute_flux` in terms of the tests the source performs (C13)

`Flux.metaCheck` is written by pattern matching on the dimension of each metadata item; the Python source asks two
questions per item — is it there, and has it the right dimension.  `Flux.metaCheck_eq` is the table in that form
(used by `GenEq.flux_table_eq` and `Flux.outcome_ok_iff`).
-/
namespace Flux

/-- one required metadata item: wrong dimension, absent, or fine (`ok` is the source's dimension test) -/
def need (x : Option Dim) (ok : Bool) (eDim eMiss : Outcome) : Option Outcome :=
  if x.isSome && !ok then some eDim else if !x.isSome then some eMiss else none

theorem metaCheck_eq (input : Dim) (m : MetaDims) :
    metaCheck input m =
      let ang (x : Option Dim) := need x (x == some .angle)
      let w := m.wavelength
      match input with
      | .fnu => none
      | .flambda => need w (w == some .length) .wavelengthDim .wavelengthMissing
      | .surf => ang m.spatial .spatialDim .spatialMissing
      | .perBeam =>
        (ang m.spatial .spatialDim .spatialMissing).orElse fun _ =>
        (ang m.bmaj .bmajDim .bmajMissing).orElse fun _ => ang m.bmin .bminDim .bminMissing
      | .temp =>
        (ang m.spatial .spatialDim .spatialMissing).orElse fun _ =>
        (ang m.bmaj .bmajDim .bmajMissing).orElse fun _ =>
        (ang m.bmin .bminDim .bminMissing).orElse fun _ =>
        need w (w == some .length || w == some .freq) .wavelengthDim .wavelengthMissing
      | _ => some .unsupported := by
  have hang (x : Option Dim) (e1 e2) : checkAngle x e1 e2 = need x (x == some .angle) e1 e2 := by
    rcases x with _ | d
    · rfl
    · cases d <;> rfl
  cases input <;> simp only [metaCheck, hang]
  -- only `flambda` and `temp` are left: they look at the wavelength, whose dimension decides
  all_goals (rcases m with ⟨_ | (_|_|_|_|_|_|_|_|_), _, _, _⟩ <;> rfl)

theorem need_beq_eq_none (x : Option Dim) (d : Dim) (e1 e2 : Outcome) :
    need x (x == some d) e1 e2 = none ↔ x = some d := by
  cases x <;> simp [need]

theorem need_beq_or_eq_none (x : Option Dim) (a b : Dim) (e1 e2 : Outcome) :
    need x (x == some a || x == some b) e1 e2 = none ↔ x = some a ∨ x = some b := by
  cases x <;> simp [need, Decidable.or_iff_not_imp_left]

theorem need_ne_ok (x : Option Dim) (ok : Bool) {e1 e2 : Outcome} (h1 : e1 ≠ .ok) (h2 : e2 ≠ .ok) :
    need x ok e1 e2 ≠ some .ok := by
  cases hx : x.isSome <;> cases ok <;> simp [need, hx, h1, h2]

theorem metaCheck_eq_none (input : Dim) (md : MetaDims) :
    metaCheck input md = none ↔
      ( input = .fnu
      ∨ (input = .flambda ∧ md.wavelength = some .length)
      ∨ (input = .surf ∧ md.spatial = some .angle)
      ∨ (input = .perBeam ∧ md.spatial = some .angle ∧ md.bmaj = some .angle
            ∧ md.bmin = some .angle)
      ∨ (input = .temp ∧ md.spatial = some .angle ∧ md.bmaj = some .angle
            ∧ md.bmin = some .angle
            ∧ (md.wavelength = some .length ∨ md.wavelength = some .freq)) ) := by
  rw [metaCheck_eq]
  cases input <;> simp [need_beq_eq_none, need_beq_or_eq_none, Option.or_eq_none_iff]

theorem metaCheck_ne_ok (input : Dim) (md : MetaDims) : metaCheck input md ≠ some .ok := by
  rw [metaCheck_eq]
  cases input <;> simp [need_ne_ok, Option.or_eq_some_iff]

theorem outcome_ok_iff (input : Dim) (md : MetaDims) (output : Dim) :
    outcome input md output = .ok ↔ output = .fnu ∧ metaCheck input md = none := by
  unfold outcome
  cases h : metaCheck input md with
  | none => by_cases ho : output = .fnu <;> simp [ho]
  | some e => simpa using fun he : e = .ok => metaCheck_ne_ok input md (he ▸ h)

end Flux
