import ADProofs.SimProofs
/-!
# ADProofs.ThresholdProofs — raising the threshold only restricts the structures (C16, last
clause), and whole-compute determinism

Setting: the processed pixels have pairwise distinct values and are processed in strictly decreasing order (`hstrict`),
and nothing is pruned (`hno`).  Raising `min_value` to a level `thr` keeps exactly a prefix `pre` of the order
(`split_at_level`).

`restrictL keep` restricts a forest to a pixel set: a node whose own list becomes empty disappears and its surviving
children take its place (so the restriction of a tree is a forest).  Along such a run no adjacent root is ever
insignificant (`no_insig`), so nothing is absorbed, and a step with a pixel outside the kept set does not change the
restricted forest up to the order of the roots (`step_restrict`).  Hence the restricted forest *is* `run E pre` up to a
permutation of the root list — identifiers, own lists and children lists included.
-/
open Tree

namespace P26

mutual
def restrictT (keep : Nat → Bool) : Tree → List Tree
  | .node i o ks =>
    let o' := o.filter keep
    let ks' := restrictL keep ks
    if o'.isEmpty then ks' else [.node i o' ks']
def restrictL (keep : Nat → Bool) : List Tree → List Tree
  | [] => []
  | t :: ts => restrictT keep t ++ restrictL keep ts
end

theorem restrictL_eq_flatMap (keep : Nat → Bool) (l : List Tree) :
    restrictL keep l = l.flatMap (restrictT keep) := by
  induction l with
  | nil => simp [restrictL]
  | cons t ts ih => simp [restrictL, ih]

theorem restrictL_append (keep : Nat → Bool) (a b : List Tree) :
    restrictL keep (a ++ b) = restrictL keep a ++ restrictL keep b := by
  simp [restrictL_eq_flatMap]

theorem restrictL_perm (keep : Nat → Bool) {a b : List Tree} (h : a.Perm b) :
    (restrictL keep a).Perm (restrictL keep b) := by
  rw [restrictL_eq_flatMap, restrictL_eq_flatMap]; exact h.flatMap_right _

theorem restrictL_singleton (keep : Nat → Bool) (t : Tree) : restrictL keep [t] = restrictT keep t := by
  simp [restrictL]

theorem restrictT_addPixel (keep : Nat → Bool) (t : Tree) (p : Nat) (hp : keep p = false) :
    restrictT keep (t.addPixel p) = restrictT keep t := by
  cases t with | node i o ks =>
  simp [addPixel_eq, restrictT, List.filter_append, hp]

theorem restrictT_new (keep : Nat → Bool) (p : Nat) (ks : List Tree) (hp : keep p = false) :
    restrictT keep (node p [p] ks) = restrictL keep ks := by
  simp [restrictT, hp]

theorem restrict_id (keep : Nat → Bool) :
    (∀ t : Tree, (∀ s ∈ pre t, s.own ≠ []) → (∀ x ∈ t.pixels, keep x = true) → restrictT keep t = [t]) ∧
    (∀ l : List Tree, (∀ s ∈ preL l, s.own ≠ []) → (∀ x ∈ pixelsL l, keep x = true) →
      restrictL keep l = l) := by
  apply Tree.forest_induction
  · intro i o ks ih hne hk
    have ho : o.filter keep = o := List.filter_eq_self.mpr fun x hx => hk x (List.mem_append_left _ hx)
    have hks := ih (fun s hs => hne s (List.mem_cons_of_mem _ hs)) fun x hx => hk x (List.mem_append_right _ hx)
    have hne' : o ≠ [] := hne _ List.mem_cons_self
    simp [restrictT, ho, hks, hne']
  · intro _ _; rfl
  · intro t ts iht ihts hne hk
    rw [restrictL, iht (fun s hs => hne s (List.mem_append_left _ hs)) fun x hx => hk x (List.mem_append_left _ hx),
      ihts (fun s hs => hne s (List.mem_append_right _ hs)) fun x hx => hk x (List.mem_append_right _ hx)]
    rfl

/-- The peak of a root is the value of an earlier pixel, strictly above `val p`, and the criteria accept everything. -/
theorem no_insig (E : Env) (order : List Nat)
    (hstrict : order.Pairwise (fun a b => E.val b < E.val a))
    (hno : ∀ t p v, E.indep t p v = true) :
    ∀ pre p suf, order = pre ++ p :: suf → ∀ t ∈ run E pre, insig E p t = false := by
  intro pre p suf ho t ht
  obtain ⟨a, ha, hv⟩ := vmax_attained E.val t (run_own_nonempty E pre t (mem_preL_of_mem ht))
  have hlt : E.val p < E.val a := sorted_at ho hstrict a (pixels_mem_order ht (own_pixels_sub t ha))
  exact Bool.eq_false_iff.mpr fun h =>
    Int.ne_of_lt hlt (hv ▸ ((insig_iff_of_noprune hno p t).mp h).2).symm

theorem restrictT_joinAdj (E : Env) (keep : Nat → Bool) (p : Nat) (adj : List Tree)
    (hp : keep p = false) (hins : ∀ t ∈ adj, insig E p t = false) :
    restrictT keep (joinAdj E p adj) = restrictL keep adj := by
  rcases joinAdj_cases E p adj with ⟨t, hperm, he⟩ | ⟨_, _, he⟩
  · -- nothing is absorbed, so `t` is the only adjacent root
    have hM : mergedOf E p adj = [] := List.eq_nil_iff_forall_not_mem.mpr fun m hm => by
      have := mergedOf_insig hm
      rw [hins m this.1] at this; cases this.2
    rw [hM] at hperm he
    rw [he, List.perm_singleton.mp hperm, restrictL_singleton]
    exact restrictT_addPixel keep t p hp
  · rw [he, List.filter_eq_nil_iff.mpr fun t ht => by simp [hins t ht],
      List.filter_eq_self.mpr fun t ht => by simp [hins t ht]]
    exact restrictT_new keep p adj hp

theorem step_restrict (E : Env) (keep : Nat → Bool) (roots : List Tree) (p : Nat)
    (hp : keep p = false) (hins : ∀ t ∈ roots, insig E p t = false) :
    (restrictL keep (step E roots p)).Perm (restrictL keep roots) := by
  unfold step
  rw [restrictL_append, restrictL_singleton, restrictT_joinAdj E keep p _ hp
    (fun t ht => hins t (mem_adjacent.mp ht).1)]
  refine (List.Perm.append_left _ (restrictL_perm keep (sortById_perm _))).trans ?_
  rw [← restrictL_append]
  exact restrictL_perm keep (roots_perm E roots p).symm

theorem restrict_suffix (E : Env) (keep : Nat → Bool) (hno : ∀ t p v, E.indep t p v = true)
    (pre suf : List Nat) (hstrict : (pre ++ suf).Pairwise (fun a b => E.val b < E.val a))
    (hk : ∀ x ∈ suf, keep x = false) :
    (restrictL keep (run E (pre ++ suf))).Perm (restrictL keep (run E pre)) := by
  induction suf using List.snoc_induction with
  | nil => simp
  | snoc suf p ih =>
    rw [← List.append_assoc] at hstrict ⊢
    rw [run_snoc]
    exact (step_restrict E keep _ p (hk p (by simp))
        (no_insig E _ hstrict hno (pre ++ suf) p [] rfl)).trans
      (ih (hstrict.sublist (List.sublist_append_left _ _))
        fun x hx => hk x (List.mem_append_left _ hx))

/-- `C16_threshold_restriction` for any predicate `keep` true on the pixels above the raised threshold (`pre`) and false
on the others (`suf`). -/
theorem threshold_restriction_keep (E : Env) (pre suf : List Nat) (keep : Nat → Bool)
    (hstrict : (pre ++ suf).Pairwise (fun a b => E.val b < E.val a))
    (hno : ∀ t p v, E.indep t p v = true)
    (hpre : ∀ x ∈ pre, keep x = true) (hsuf : ∀ x ∈ suf, keep x = false) :
    (restrictL keep (run E (pre ++ suf))).Perm (run E pre) := by
  have h := restrict_suffix E keep hno pre suf hstrict hsuf
  have hid : restrictL keep (run E pre) = run E pre := by
    apply (restrict_id keep).2
    · exact run_own_nonempty E pre
    · intro x hx
      obtain ⟨t, ht, hxt⟩ := mem_pixelsL.mp hx
      exact hpre x (pixels_mem_order ht hxt)
  rwa [hid] at h

theorem threshold_restriction_perm (E : Env) (pre suf : List Nat)
    (hstrict : (pre ++ suf).Pairwise (fun a b => E.val b < E.val a))
    (hno : ∀ t p v, E.indep t p v = true) :
    (restrictL (fun x => decide (x ∈ pre)) (run E (pre ++ suf))).Perm (run E pre) :=
  threshold_restriction_keep E pre suf _ hstrict hno (fun _ hx => decide_eq_true hx)
    -- values strictly decrease along `pre ++ suf`, so the two halves are disjoint
    fun x hx => decide_eq_false fun hx' => Int.lt_irrefl _ ((List.pairwise_append.mp hstrict).2.2 x hx' x hx)

/-- `C16_threshold_restriction` weakened to a similarity under the identity renaming; the property theorem has the form
of `threshold_restriction_perm`, for a level. -/
theorem threshold_restriction (E : Env) (pre suf : List Nat)
    (hstrict : (pre ++ suf).Pairwise (fun a b => E.val b < E.val a))
    (hno : ∀ t p v, E.indep t p v = true) :
    P10.SimL (fun p => p) (run E pre)
      (restrictL (fun x => decide (x ∈ pre)) (run E (pre ++ suf))) :=
  P18.SmL.of_perm (threshold_restriction_perm E pre suf hstrict hno).symm

theorem threshold_restriction_exists (E : Env) (pre suf : List Nat)
    (hstrict : (pre ++ suf).Pairwise (fun a b => E.val b < E.val a))
    (hno : ∀ t p v, E.indep t p v = true) :
    ∃ g, (restrictL (fun x => decide (x ∈ pre)) (run E (pre ++ suf))).Perm g ∧ g = run E pre :=
  ⟨_, threshold_restriction_perm E pre suf hstrict hno, rfl⟩

theorem split_at_level (val : Nat → Int) (thr : Int) (order : List Nat)
    (hstrict : order.Pairwise (fun a b => val b < val a)) :
    order = order.filter (fun x => decide (thr < val x)) ++
      order.filter (fun x => !decide (thr < val x)) :=
  (List.filter_append_perm _ order).symm.eq_of_pairwise (fun a b _ _ h h' => by omega) hstrict
    (List.pairwise_append.mpr ⟨hstrict.filter _, hstrict.filter _, fun a ha b hb => by
      have ha : thr < val a := by simpa using (List.mem_filter.mp ha).2
      have hb : val b ≤ thr := by simpa using (List.mem_filter.mp hb).2
      exact Int.lt_of_le_of_lt hb ha⟩)

theorem compute_congr (E E' : Env) (order : List Nat)
    (h : ∀ t p v, E.indep t p v = E'.indep t p v) (hv : E.val = E'.val) (hn : E.nbrs = E'.nbrs)
    (ho : E.indepOrphan = E'.indepOrphan) : compute E order = compute E' order := by
  obtain ⟨v, n, i, o⟩ := E
  obtain ⟨v', n', i', o'⟩ := E'
  obtain rfl : i = i' := funext fun t => funext fun p => funext (h t p)
  cases hv; cases hn; cases ho
  rfl

end P26
