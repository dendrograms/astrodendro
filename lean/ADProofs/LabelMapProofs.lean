import ADModel.LabelMap
import ADProofs.Run
import ADProofs.Forest
import ADProofs.IndexProofs
import ADProofs.PruneProofs
import ADProofs.ListLemmas
/-!
# ADProofs.LabelMapProofs — the label-map loop refines the functional pixel loop (namespace `P36`)

For every `E : Env` and every `order` without repetition (`argsort` yields each kept pixel once; the hypothesis cannot
be dropped, see the end of the file) `runL E order = ⟨labelOf (run E order), run E order⟩` (`runL_eq`): the loop of
`ADModel.LabelMap`, which finds adjacent structures through `index_map`, computes the forest of `run`, which finds them
by pixel membership, and its label map is `labelOf` of that forest.  One iteration (`stepL_eq`) rests on two facts:
`adjacentL_eq` (labels → roots, dedup, sort  =  `sortById (roots.filter touches)`) and `labelOf_step` (what the loop
writes into the label map, `stepL_lmap`, is how the owners change in `step`).
-/
open Tree

namespace P36

theorem ids_nodup_of_sublist {f l : List Tree} (hid : IdsNodup f) (h : l.Sublist f) :
    (l.map Tree.id).Nodup :=
  ((h.trans (PruneP.sublist_preL f)).map Tree.id).nodup hid

theorem root_id_inj {f : List Tree} (hid : IdsNodup f) {t u : Tree} (ht : t ∈ f) (hu : u ∈ f)
    (e : t.id = u.id) : t = u :=
  List.eq_of_nodup_map hid (mem_preL_of_mem ht) (mem_preL_of_mem hu) e

theorem dedupById_ids_nodup (l : List Tree) : ((dedupById l).map Tree.id).Nodup := by
  induction l with
  | nil => simp [dedupById]
  | cons t ts ih =>
    simp only [dedupById, List.map_cons, List.nodup_cons]
    refine ⟨?_, ((List.filter_sublist (l := dedupById ts)).map Tree.id).nodup ih⟩
    intro hm
    obtain ⟨u, hu, e⟩ := List.mem_map.mp hm
    have := (List.mem_filter.mp hu).2
    simp [e] at this

theorem dedupById_sublist : ∀ l : List Tree, (dedupById l).Sublist l
  | [] => .slnil
  | t :: ts => (List.filter_sublist.trans (dedupById_sublist ts)).cons_cons t

theorem mem_dedupById {l : List Tree} (hinj : ∀ a ∈ l, ∀ b ∈ l, a.id = b.id → a = b) (t : Tree) :
    t ∈ dedupById l ↔ t ∈ l := by
  refine ⟨fun h => (dedupById_sublist l).subset h, ?_⟩
  induction l with
  | nil => simp
  | cons a ts ih =>
    intro h
    simp only [dedupById, List.mem_cons, List.mem_filter]
    rcases List.mem_cons.mp h with e | h'
    · exact Or.inl e
    · by_cases hid : t.id = a.id
      · exact Or.inl (hinj t h a List.mem_cons_self hid)
      · refine Or.inr ⟨ih (fun x hx y hy => hinj x (List.mem_cons_of_mem _ hx) y (List.mem_cons_of_mem _ hy)) h', ?_⟩
        simpa using hid

theorem hasId_iff {l : Nat} {t : Tree} : hasId l t = true ↔ ∃ s ∈ pre t, s.id = l := by
  simp [hasId, List.any_eq_true]

theorem rootOfLabel_some {f : List Tree} {l : Nat} {t : Tree} (h : rootOfLabel f l = some t) :
    t ∈ f ∧ ∃ s ∈ pre t, s.id = l :=
  ⟨List.mem_of_find?_eq_some h, hasId_iff.mp (List.find?_some h)⟩

theorem rootOfLabel_eq {f : List Tree} (hid : IdsNodup f) {t s : Tree} (ht : t ∈ f) (hs : s ∈ pre t) :
    rootOfLabel f s.id = some t := by
  have hid' : (f.flatMap fun t => (pre t).map Tree.id).Nodup := by
    rw [← List.map_flatMap, ← preL_eq_flatMap]; exact hid
  cases hf : f.find? (hasId s.id) with
  | none => exact absurd (hasId_iff.mpr ⟨s, hs, rfl⟩) (by simpa using List.find?_eq_none.mp hf t ht)
  | some u =>
    -- `u` lists a structure with the identifier of `s`, so does `t`: they are the same root
    obtain ⟨s', hs', e⟩ := hasId_iff.mp (List.find?_some hf)
    rw [rootOfLabel, hf, List.eq_of_nodup_flatMap hid' (List.mem_of_find?_eq_some hf) ht
      (e ▸ List.mem_map_of_mem hs') (List.mem_map_of_mem hs)]

/-- `structures[a]` never raises `KeyError`, and the ancestor found is the root whose region holds the cell -/
theorem labels_resolve {f : List Tree} (hid : IdsNodup f) (hpx : (pixelsL f).Nodup) {q l : Nat}
    (hl : labelOf f q = some l) : ∃ t ∈ f, rootOfLabel f l = some t ∧ q ∈ t.pixels := by
  obtain ⟨x, hx, e, hq⟩ := (P8.labelOf_some_iff hpx).mp hl
  obtain ⟨u, hu, hxu⟩ := mem_preL.mp hx
  exact ⟨u, hu, e ▸ rootOfLabel_eq hid hu hxu, mem_pixels_iff.mpr ⟨x, hxu, hq⟩⟩

theorem adjacentL_eq (E : Env) {roots : List Tree} (hid : IdsNodup roots) (hpx : (pixelsL roots).Nodup) (p : Nat) :
    adjacentL E ⟨labelOf roots, roots⟩ p = sortById (roots.filter (touches E p)) := by
  unfold adjacentL
  -- the label of a neighbour resolves to `x` iff `x` is the root holding that neighbour
  have hraw : ∀ x, x ∈ (labelsAt E (labelOf roots) p).filterMap (rootOfLabel roots) ↔
      (x ∈ roots ∧ touches E p x = true) := by
    intro x
    simp only [labelsAt, List.mem_filterMap, touches_iff]
    constructor
    · rintro ⟨l, ⟨q, hq, hl⟩, hr⟩
      obtain ⟨t, ht, hr', hqt⟩ := labels_resolve hid hpx hl
      cases hr.symm.trans hr'
      exact ⟨ht, q, hqt, hq⟩
    · rintro ⟨hx, q, hqx, hq⟩
      obtain ⟨s, hs, hqs⟩ := mem_pixels_iff.mp hqx
      exact ⟨s.id, ⟨q, hq, (P8.labelOf_some_iff hpx).mpr ⟨s, mem_preL.mpr ⟨x, hx, hs⟩, rfl, hqs⟩⟩,
        rootOfLabel_eq hid hx hs⟩
  refine List.eq_of_pairwise_of_mem_iff (sortById_isSort.strict (dedupById_ids_nodup _))
    (sortById_isSort.strict (ids_nodup_of_sublist hid List.filter_sublist))
    (fun _ _ => Nat.lt_asymm) fun x => ?_
  rw [mem_sortById, mem_sortById, mem_dedupById, hraw, List.mem_filter]
  intro a ha b hb e
  exact root_id_inj hid ((hraw a).mp ha).1 ((hraw b).mp hb).1 e

/-- Two implications and not an equivalence: a new structure (identifier `p`) takes nothing from an adjacent root that
happens to carry the identifier `p`. -/
theorem joinAdj_own (E : Env) (p : Nat) (adj : List Tree) :
    (∀ q, (q = p ∨ ∃ m ∈ mergedOf E p adj, q ∈ m.own) → q ∈ (joinAdj E p adj).own) ∧
    ∀ q ∈ (joinAdj E p adj).own, (q = p ∨ ∃ m ∈ mergedOf E p adj, q ∈ m.own) ∨
      ∃ t ∈ adj, t.id = (joinAdj E p adj).id ∧ q ∈ t.own := by
  rcases joinAdj_cases E p adj with ⟨t, hperm, hj⟩ | ⟨_, hmrg, hj⟩
  · rw [hj]
    simp only [own_node, id_node, List.mem_append, List.mem_cons, mem_ownL]
    exact ⟨fun _ => .inr, fun _ h => h.symm.imp_right fun h => ⟨t, hperm.mem_iff.mpr List.mem_cons_self, rfl, h⟩⟩
  · rw [hj, ← hmrg]
    simp only [own_node, List.mem_cons, mem_ownL]
    exact ⟨fun _ => id, fun _ => .inl⟩

theorem foldl_fill (ms : List Tree) (idx : Nat) (lm : Nat → Option Nat) (q : Nat) :
    (ms.foldl (fun lm m => fillFootprint lm m idx) lm) q =
      if ms.any (fun m => m.own.contains q) then some idx else lm q :=
  List.foldl_write (fun (m : Tree) q => m.own.contains q) (some idx) ms lm q

theorem stepL_lmap (E : Env) (s : LState) (p q : Nat) :
    (stepL E s p).lmap q =
      if q = p ∨ ∃ m ∈ mergedOf E p (adjacentL E s p), q ∈ m.own
      then some (joinAdj E p (adjacentL E s p)).id else s.lmap q := by
  simp only [stepL, foldl_fill, setLabel, List.any_eq_true, List.contains_iff_mem]
  by_cases h2 : ∃ m ∈ mergedOf E p (adjacentL E s p), q ∈ m.own <;> simp [h2]

theorem labelOf_step (E : Env) {roots : List Tree} (hpx : (pixelsL roots).Nodup) {p : Nat}
    (hp : p ∉ pixelsL roots) (q : Nat) :
    labelOf (step E roots p) q =
      if q = p ∨ ∃ m ∈ mergedOf E p (sortById (roots.filter (touches E p))), q ∈ m.own
      then some (joinAdj E p (sortById (roots.filter (touches E p)))).id else labelOf roots q := by
  have hpix := step_pixels E roots p
  have hpx' : (pixelsL (step E roots p)).Nodup := hpix.nodup_iff.mpr (List.nodup_cons.mpr ⟨hp, hpx⟩)
  have hr : joinAdj E p (sortById (roots.filter (touches E p))) ∈ preL (step E roots p) :=
    mem_preL_of_mem (mem_step.mpr (.inr rfl))
  obtain ⟨hin, hout⟩ := joinAdj_own E p (sortById (roots.filter (touches E p)))
  cases hl : labelOf (step E roots p) q with
  | none =>
    rw [P8.labelOf_none_iff] at hl
    rw [if_neg fun hc => hl (mem_pixelsL_iff.mpr ⟨_, hr, hin q hc⟩), eq_comm, P8.labelOf_none_iff]
    exact fun h => hl (hpix.mem_iff.mpr (List.mem_cons_of_mem _ h))
  | some i =>
    obtain ⟨s, hs, rfl, hqs⟩ := (P8.labelOf_some_iff hpx').mp hl
    split
    next hc =>
      -- the receiving structure owns `q` as well, and no pixel is owned twice
      rw [List.eq_of_nodup_flatMap (pixelsL_eq_own _ ▸ hpx') hs hr hqs (hin q hc)]
    next hc =>
      -- `s` is an old structure, or the receiving one, which then got `q` from the adjacent root with its identifier
      refine ((P8.labelOf_some_iff hpx).mpr ?_).symm
      rcases mem_preL_step E roots p s hs with hs | rfl
      · exact ⟨s, hs, rfl, hqs⟩
      · exact ((hout q hqs).resolve_left hc).imp fun t h => ⟨mem_preL_of_mem (mem_adjacent.mp h.1).1, h.2⟩

theorem stepL_eq (E : Env) {roots : List Tree} (hid : IdsNodup roots) (hpx : (pixelsL roots).Nodup) {p : Nat}
    (hp : p ∉ pixelsL roots) :
    stepL E ⟨labelOf roots, roots⟩ p = ⟨labelOf (step E roots p), step E roots p⟩ := by
  have hA := adjacentL_eq E hid hpx p
  have hl : ∀ q, (stepL E ⟨labelOf roots, roots⟩ p).lmap q = labelOf (step E roots p) q := fun q => by
    rw [stepL_lmap, hA, labelOf_step E hpx hp]
  have hr : (stepL E ⟨labelOf roots, roots⟩ p).roots = step E roots p := by
    simp only [stepL, step]
    rw [hA]
    -- an adjacent root is recognised by its identifier
    refine congrArg (· ++ _) (List.filter_congr fun t ht => congrArg (!·) ?_)
    rw [Bool.eq_iff_iff, List.any_eq_true]
    constructor
    · rintro ⟨a, ha, e⟩
      obtain ⟨ha1, ha2⟩ := mem_adjacent.mp ha
      rwa [← root_id_inj hid ha1 ht (by simpa using e)]
    · exact fun htt => ⟨t, mem_adjacent.mpr ⟨ht, htt⟩, by simp⟩
  show LState.mk (stepL E _ p).lmap (stepL E _ p).roots = _
  rw [hr, funext hl]

theorem runL_snoc (E : Env) (pre : List Nat) (p : Nat) :
    runL E (pre ++ [p]) = stepL E (runL E pre) p := by
  simp [runL, List.foldl_append]

theorem runL_eq (E : Env) (order : List Nat) (hnd : order.Nodup) :
    runL E order = ⟨labelOf (run E order), run E order⟩ := by
  induction order using List.snoc_induction with
  | nil => rfl
  | snoc pre p ih =>
    have hpre := hnd.sublist (List.sublist_append_left pre [p])
    rw [runL_snoc, run_snoc, ih hpre]
    exact stepL_eq E (run_ids_nodup E pre hpre) (run_pixels_nodup E pre hpre)
      fun h => fresh_at rfl hnd ((mem_run_pixels E pre p).mp h)

theorem runL_labels_resolve (E : Env) (order : List Nat) (hnd : order.Nodup) (q l : Nat)
    (hl : (runL E order).lmap q = some l) :
    ∃ t ∈ (runL E order).roots, rootOfLabel (runL E order).roots l = some t ∧ q ∈ t.pixels := by
  rw [runL_eq E order hnd] at hl ⊢
  exact labels_resolve (run_ids_nodup E order hnd) (run_pixels_nodup E order hnd) hl

theorem adjacentL_drop_none (E : Env) (s : LState) (p : Nat) (a b : List Nat) (c : Nat)
    (hn : E.nbrs p = a ++ c :: b) (hc : s.lmap c = none) :
    adjacentL E s p =
      sortById (dedupById (((a ++ b).filterMap s.lmap).filterMap (rootOfLabel s.roots))) := by
  unfold adjacentL labelsAt
  rw [hn]
  simp [List.filterMap_append, hc]

def dropCells (E : Env) (pad : Nat → Bool) : Env :=
  { E with nbrs := fun x => (E.nbrs x).filter (fun q => !pad q) }

theorem touches_dropCells (E : Env) (pad : Nat → Bool) (p : Nat) {t : Tree}
    (h : ∀ q ∈ t.pixels, pad q = false) : touches (dropCells E pad) p t = touches E p t := by
  simp only [touches, dropCells, List.any_filter]
  refine List.any_congr rfl fun q => ?_
  by_cases hq : q ∈ t.pixels <;> simp [hq, h]

theorem step_dropCells (E : Env) (pad : Nat → Bool) {roots : List Tree} (p : Nat)
    (h : ∀ q ∈ pixelsL roots, pad q = false) : step (dropCells E pad) roots p = step E roots p := by
  have ht : ∀ t ∈ roots, touches (dropCells E pad) p t = touches E p t := fun t ht =>
    touches_dropCells E pad p fun q hq => h q (mem_pixelsL.mpr ⟨t, ht, hq⟩)
  unfold step
  rw [List.filter_congr ht, List.filter_congr fun t h => congrArg (!·) (ht t h)]
  rfl

/-- **padding trick.**  `pad`: border / out-of-range cells that the neighbour function may return.  The structures
hold processed pixels only, so a padding cell never makes a structure adjacent. -/
theorem run_dropCells (E : Env) (pad : Nat → Bool) (order : List Nat)
    (hpad : ∀ q, pad q = true → q ∉ order) : run (dropCells E pad) order = run E order := by
  induction order using List.snoc_induction with
  | nil => rfl
  | snoc pre p ih =>
    have hpad' : ∀ q, pad q = true → q ∉ pre := fun q hq hc => hpad q hq (List.mem_append_left _ hc)
    rw [run_snoc, run_snoc, ih hpad']
    exact step_dropCells E pad p fun q hq =>
      Bool.eq_false_iff.mpr fun hc => hpad' q hc ((mem_run_pixels E pre q).mp hq)

/-! A row of five pixels with values `3 1 2 1 3`; cell `5` is the padding cell that the neighbour
function returns at both ends.  A leaf is independent when it rises at least 2 above the merging
value.  Pixels are processed in the order `4 0 2 3 1`: leaves at 4, 0 and 2; pixel 3 meets the
leaves 2 and 4, the former is insignificant and is merged (its pixel is relabelled 2 ↦ 4 by
`_fill_footprint`); pixel 1 meets the leaves 0 and 4, both independent, and creates a branch. -/

def rowVal : Nat → Int := fun i => [3, 1, 2, 1, 3].getD i 0

def rowEnv : Env where
  val := rowVal
  nbrs := fun i => [[5, 1], [0, 2], [1, 3], [2, 4], [3, 5]].getD i []
  indep := fun t _ v => decide (2 ≤ t.vmax rowVal - v)
  indepOrphan := fun _ => true

def rowOrder : List Nat := [4, 0, 2, 3, 1]

example : (runL rowEnv rowOrder).roots = run rowEnv rowOrder := by rfl

example : (runL rowEnv rowOrder).roots =
    [node 1 [1] [node 0 [0] [], node 4 [4, 3, 2] []]] := by rfl

example : (List.range 6).map (runL rowEnv rowOrder).lmap =
    [some 0, some 1, some 4, some 4, some 4, none] := by decide +kernel

example : (List.range 6).map (runL rowEnv rowOrder).lmap =
    (List.range 6).map (labelOf (run rowEnv rowOrder)) := by decide +kernel

/-- the intermediate state before pixel 3: leaf 2 still carries its own label -/
example : (List.range 6).map (runL rowEnv [4, 0, 2]).lmap =
    [some 0, none, some 2, none, some 4, none] := by decide +kernel

example : (adjacentL rowEnv (runL rowEnv [4, 0, 2]) 3).map Tree.id = [2, 4] := by decide +kernel

example : (runL rowEnv rowOrder).roots = run rowEnv rowOrder :=
  congrArg LState.roots (runL_eq rowEnv rowOrder (by decide +kernel))

/-! ## the hypothesis `order.Nodup` cannot be dropped

If a pixel is processed twice (which `argsort` never does), two structures get the same identifier;
the label then resolves to one of them only, whereas pixel membership finds both. -/

def dupEnv : Env where
  val := fun _ => 0
  nbrs := fun i => if i = 6 then [5] else []
  indep := fun _ _ _ => true
  indepOrphan := fun _ => true

example : (runL dupEnv [5, 5, 6]).roots = [node 5 [5, 6] []] := by rfl
example : run dupEnv [5, 5, 6] = [node 5 [5, 6, 5] []] := by rfl

end P36
