import ADProofs.PruneOrigProofs
/-!
# ADProofs.PruneNpixProofs — C08 for the code's own rule when `min_delta ≤ 0`

With `min_delta ≤ 0` the code's post-hoc rule (`allChild`) and the original-level rule
(`allChildOrig`) give the same verdict on every leaf the pruning loop asks about: both delta tests
hold, the first because a leaf is at least as high as its parent, the second because the region of
a child has a pixel at or above its original merge level.  So the two loops run identically
(`pruneLoop_congr`) and the statement follows from `P28.pruneOrig_eq_compute`.
-/
open Tree

namespace P18
open P28 (HasLev levOf)

theorem allChildOrig_eq_allChild (val : Nat → Int) (tbl : List (Nat × Int)) {d : Int} (hd : d ≤ 0)
    (n : Nat) {P k : Tree} (hk : k ∈ P.kids) (hl : k.kids = []) (hlev : HasLev tbl k.id)
    (hge : ∃ a ∈ k.pixels, levOf tbl k.id ≤ val a) :
    allChildOrig val tbl [Crit.minDelta d, Crit.minNpix n] P k =
      allChild val [Crit.minDelta d, Crit.minNpix n] P k := by
  obtain ⟨a, ha, hle⟩ := hge
  have hne : k.own ≠ [] := List.ne_nil_of_mem (leaf_pixels hl ▸ ha)
  rw [allChild_leaf_eq val hd n hk hl hne,
    P28.allChildOrig_leaf_eq val tbl d n (P := P) hl hne hlev, P28.bdAt_of_leaf val d n _ hl]
  have : k.pixels.all (fun x => decide (val x - levOf tbl k.id < d)) = false := by
    rw [List.all_eq_false]
    exact ⟨a, ha, by simp only [decide_eq_true_eq]; omega⟩
  simp only [P28.failsAt, fails, this, Bool.or_false]

/-- every child keeps an entry and a pixel that reaches its level, these being facts about its
identifier and its region -/
theorem pruneLoop_orig_eq_child (val : Nat → Int) (tbl : List (Nat × Int)) {d : Int} (hd : d ≤ 0)
    (n k : Nat) (f : List Tree) (hids : IdsNodup f)
    (h : ∀ P ∈ preL f, ∀ c ∈ P.kids, HasLev tbl c.id ∧ ∃ a ∈ c.pixels, levOf tbl c.id ≤ val a) :
    pruneLoop (allChildOrig val tbl [Crit.minDelta d, Crit.minNpix n]) k f =
      pruneLoop (allChild val [Crit.minDelta d, Crit.minNpix n]) k f :=
  pruneLoop_congr
    (I := fun g => ∀ P ∈ preL g, ∀ c ∈ P.kids,
      HasLev tbl c.id ∧ ∃ a ∈ c.pixels, levOf tbl c.id ≤ val a)
    (fun _ _ hg h hs => hs.forall_kids
      (fun _ _ e p ⟨h1, a, ha, hle⟩ => ⟨e ▸ h1, a, p.symm.subset ha, e ▸ hle⟩) hg h)
    (fun _ h P hP c hc hl =>
      allChildOrig_eq_allChild val tbl hd n hc hl (h P hP c hc).1 (h P hP c hc).2)
    k f hids h

/-- `C08_npix` with any `d0 ≤ d1 ≤ 0` in place of `min_delta = 0`. -/
theorem prune_eq_compute_nonpos (val : Nat → Int) (nbrs : Nat → List Nat) (order : List Nat)
    (d0 d1 : Int) (n0 n1 : Nat) (hnd : order.Nodup)
    (hsorted : order.Pairwise (fun a b => val b ≤ val a)) (hd : d0 ≤ d1) (hd1 : d1 ≤ 0)
    (h01 : n0 ≤ n1) :
    P10.SimL (fun p => p)
      (prune (allChild val [Crit.minDelta d1, Crit.minNpix n1])
        (allOrphan val [Crit.minDelta d1, Crit.minNpix n1])
        (makeTrunk (envOf val nbrs [Crit.minDelta d0, Crit.minNpix n0])
          (run (envOf val nbrs [Crit.minDelta d0, Crit.minNpix n0]) order)))
      (makeTrunk (envOf val nbrs [Crit.minDelta d1, Crit.minNpix n1])
        (run (envOf val nbrs [Crit.minDelta d1, Crit.minNpix n1]) order)) := by
  have h := P28.pruneOrig_eq_compute val nbrs order d0 d1 n0 n1 hnd hsorted hd h01
  generalize hE0 : envOf val nbrs [Crit.minDelta d0, Crit.minNpix n0] = E0 at h ⊢
  have hval : E0.val = val := by rw [← hE0]; rfl
  have hsub := makeTrunk_nodes_subset E0 (run E0 order)
  have hkey := P28.lookup_loose val E0 order hnd
  unfold prune at h ⊢
  rw [← pruneLoop_orig_eq_child val _ hd1 n1 _ _ (P28.loose_idsNodup E0 order hnd)]
  · exact h
  · -- in the loose trunk the level of a child is the value of its parent's creating pixel, which
    -- no pixel of the child is below
    intro P hP k hk
    have hk' := hsub k (kid_mem_preL hP hk)
    obtain ⟨a, ha⟩ := List.exists_mem_of_ne_nil _ (own_ne_pixels_ne (run_own_nonempty E0 order k hk'))
    refine ⟨⟨_, hkey P hP k hk⟩, a, ha, ?_⟩
    rw [levOf, hkey P hP k hk, Option.getD_some, ← hval]
    exact (ContourP.run_meeting_pixel E0 order hnd (hval ▸ hsorted) P (hsub P hP) k
      hk).2.2.2 a ha

section Main
variable (val : Nat → Int) (nbrs : Nat → List Nat) (order : List Nat) (n0 n1 : Nat)

/-- `C08_npix`: the instance `d0 = d1 = 0` -/
theorem prune_eq_compute_npix (hnd : order.Nodup)
    (hsorted : order.Pairwise (fun a b => val b ≤ val a)) (h01 : n0 ≤ n1) :
    P10.SimL (fun p => p)
      (prune (allChild val [Crit.minDelta 0, Crit.minNpix n1])
        (allOrphan val [Crit.minDelta 0, Crit.minNpix n1])
        (makeTrunk (envOf val nbrs [Crit.minDelta 0, Crit.minNpix n0])
          (run (envOf val nbrs [Crit.minDelta 0, Crit.minNpix n0]) order)))
      (makeTrunk (envOf val nbrs [Crit.minDelta 0, Crit.minNpix n1])
        (run (envOf val nbrs [Crit.minDelta 0, Crit.minNpix n1]) order)) :=
  prune_eq_compute_nonpos val nbrs order 0 0 n0 n1 hnd hsorted (Int.le_refl 0) (Int.le_refl 0) h01

end Main

end P18
