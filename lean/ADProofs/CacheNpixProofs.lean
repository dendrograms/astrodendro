import ADProofs.PruneLoopRefine
/-!
# ADProofs.CacheNpixProofs — two more facts about the cache machine (property C14)

After `prune` no cache entry survives but the `_level = 0` of the trunk; and on a well-formed heap `specDesc h.size [i]`
lists alive identifiers only, each once, and not `i` itself — so `structure.descendants + [structure]` (plot.py:68, 198,
scatter.py:132) has no structure twice.  The second fact is read off the heap as a forest (`P35.absT`), which is why
this file sits above ADProofs/PruneLoopRefine.lean and not next to CacheProofs.lean.
-/

namespace P29c
open Heap

theorem finishPrune_resets_all (g : Heap) :
    ∀ o ∈ g.finishPrune.objs, o.id ∈ g.finishPrune.alive →
      o.desc = none ∧ o.nw = none ∧ o.anc = none ∧
        (o.lvl = none ∨ (o.parent = none ∧ o.lvl = some 0)) := by
  intro o ho ha
  obtain ⟨o0, _, rfl⟩ := List.mem_map.mp (show o ∈ g.objs.map (P17.finishF g) from ho)
  rw [P17.finishF_alive g o0 (P17.finishF_id g o0 ▸ ha)]
  refine ⟨rfl, rfl, rfl, ?_⟩
  cases hp : o0.parent with
  | none => exact .inr ⟨hp, rfl⟩
  | some q => exact .inl rfl

/-- The enumeration is a rearrangement of the identifiers below `i` in the tree the heap stands for
    (`P35.specDesc_perm`), and those are distinct (`P41.cons_descIds_nodup`). -/
theorem specDesc_alive_nodup (h : Heap) (hwf : P17.WF h) (i : Nat) (hi : i ∈ h.alive) :
    (∀ x ∈ h.specDesc h.size [i], x ∈ h.alive) ∧ (h.specDesc h.size [i]).Nodup := by
  obtain ⟨rk, hr⟩ := hwf.rank
  have p := P35.specDesc_perm h h.size i
  refine ⟨fun x hx => ?_, p.nodup_iff.2 (List.nodup_cons.1 (P41.cons_descIds_nodup hwf h.size i hi)).2⟩
  exact ((P41.mem_ids_down h h.size i x (List.mem_cons_of_mem _ (p.subset hx))).alive_rank hwf hr hi).1

theorem not_mem_descendants (h : Heap) (hwf : P17.WF h) (i : Nat) (hi : i ∈ h.alive) :
    i ∉ h.specDesc h.size [i] := fun hm =>
  (List.nodup_cons.1 (P41.cons_descIds_nodup hwf h.size i hi)).1 ((P35.specDesc_perm h h.size i).subset hm)

theorem descendants_query_count (h : Heap) (hwf : P17.WF h) (hs : P17.Sound h) (i : Nat)
    (hi : i ∈ h.alive) :
    ∃ d, (h.descendants h.size i).2 = some d ∧ (∀ x ∈ d, x ∈ h.alive) ∧ d.Nodup ∧ i ∉ d :=
  ⟨_, (P17.descendants_fills hwf hs hi).1, (specDesc_alive_nodup h hwf i hi).1,
    (specDesc_alive_nodup h hwf i hi).2, not_mem_descendants h hwf i hi⟩

end P29c
