import ADModel.Prune
import ADProofs.ListLemmas
import ADProofs.Basic
/-!
# ADProofs.PruneProofs — pruning (property C07)

A successful scan (`pruneForest ic [] f = some f'`) is a `Prune.Step`: somewhere a leaf failing
`ic` is merged into its parent by `pruneAt`.  With distinct identifiers a step is one or two
`Prune.Dissolve`s (a child dissolved into its parent), and what step and loop keep (pixels, regions,
identifiers, who is a child) is proved of any sequence of dissolves, in whatever order, without a
hypothesis on the identifiers.  The two shapes of `pruneAt` themselves matter only where the leaf
and the two-sibling rule do (`Step.arity`, and the collapse in `ADProofs.PruneOrigProofs`).  That a
step removes a structure, hence the fixpoint within `sizeL f` rounds and idempotence, needs no
hypothesis either.

`ic` (post-hoc criteria for a leaf under a parent) and `io` (criteria for a parentless leaf) are
arbitrary functions everywhere.
-/
open Tree

/-- the same predicate as `Arity` of `ADProofs.Forest`, which this file does not import -/
def PArity (t : Tree) : Prop := t.kids = [] ∨ 2 ≤ t.kids.length

def IdsNodup (f : List Tree) : Prop := ((Tree.preL f).map Tree.id).Nodup

namespace PruneP

theorem sizeL_singleton (t : Tree) : sizeL [t] = size t := by simp [sizeL]

theorem pixelsL_singleton (t : Tree) : pixelsL [t] = pixels t := by simp [pixelsL]

theorem size_eq (t : Tree) : size t = 1 + sizeL t.kids := by cases t; simp [size, Tree.kids]

theorem sublist_preL (l : List Tree) : l.Sublist (preL l) := by
  induction l with
  | nil => simp [preL]
  | cons t ts ih =>
    rw [preL_cons, pre_eq, List.cons_append]
    exact (ih.trans (List.sublist_append_right _ _)).cons_cons t

end PruneP
open PruneP

theorem IdsNodup.frame {a l b : List Tree} (h : IdsNodup (a ++ l ++ b)) : IdsNodup l := by
  unfold IdsNodup at *
  simp only [preL_append, List.map_append] at h
  exact (List.nodup_append.1 (List.nodup_append.1 h).1).2.1

theorem IdsNodup.kids {i : Nat} {o : List Nat} {ks : List Tree} (h : IdsNodup [node i o ks]) :
    IdsNodup ks := by
  unfold IdsNodup at *
  rw [preL_singleton, pre] at h
  exact (List.nodup_cons.1 h).2

theorem IdsNodup.kids_ids_nodup {i : Nat} {o : List Nat} {ks : List Tree}
    (h : IdsNodup [node i o ks]) : (ks.map Tree.id).Nodup :=
  h.kids.sublist ((sublist_preL ks).map _)

namespace Prune

/-- One child `m` of some structure is dissolved into it (`_merge_with_parent`; `mergeInto` when
the identifiers are distinct). -/
inductive Dissolve : List Tree → List Tree → Prop
  | child (i o a m b) : Dissolve [node i o (a ++ m :: b)] [node i (o ++ m.own) (a ++ b ++ m.kids)]
  | under {i o ks ks'} : Dissolve ks ks' → Dissolve [node i o ks] [node i o ks']
  | frame (a b) {l l'} : Dissolve l l' → Dissolve (a ++ l ++ b) (a ++ l' ++ b)

inductive Dissolves : List Tree → List Tree → Prop
  | refl (f) : Dissolves f f
  | tail {f g g'} : Dissolves f g → Dissolve g g' → Dissolves f g'

theorem Dissolves.trans {f g g' : List Tree} (h1 : Dissolves f g) (h2 : Dissolves g g') :
    Dissolves f g' := by
  induction h2 with
  | refl => exact h1
  | tail _ h ih => exact .tail ih h

theorem Dissolves.under {i o ks ks'} (h : Dissolves ks ks') :
    Dissolves [node i o ks] [node i o ks'] := by
  induction h with
  | refl => exact .refl _
  | tail _ h ih => exact .tail ih (.under h)

theorem Dissolves.frame (a b) {l l'} (h : Dissolves l l') : Dissolves (a ++ l ++ b) (a ++ l' ++ b) := by
  induction h with
  | refl => exact .refl _
  | tail _ h ih => exact .tail ih (.frame a b h)

theorem preL_dissolve (a : List Tree) (m : Tree) (b : List Tree) :
    (preL (a ++ m :: b)).Perm (m :: preL (a ++ b ++ m.kids)) := by
  simp only [preL_append, preL_cons, pre_eq m, List.cons_append, List.append_assoc]
  exact List.perm_middle.trans ((List.perm_append_comm.append_left _).cons m)

namespace Dissolve
variable {f f' : List Tree}

theorem roots_ids (h : Dissolve f f') : f'.map Tree.id = f.map Tree.id := by
  induction h with
  | child => rfl
  | under => rfl
  | frame a b _ ih => simp [ih]

theorem pixels_roots (h : Dissolve f f') :
    (pixelsL f').Perm (pixelsL f) ∧
    ∀ t' ∈ f', ∃ t ∈ f, t.id = t'.id ∧ t'.pixels.Perm t.pixels := by
  have one : ∀ {t t' : Tree}, t.id = t'.id → t'.pixels.Perm t.pixels →
      (pixelsL [t']).Perm (pixelsL [t]) ∧
      ∀ s' ∈ [t'], ∃ s ∈ [t], s.id = s'.id ∧ s'.pixels.Perm s.pixels := by
    intro t t' e p
    simpa only [pixelsL_singleton, List.mem_singleton, forall_eq, exists_eq_left] using ⟨p, e, p⟩
  induction h with
  | child i o a m b =>
    refine one rfl ?_
    have := (preL_dissolve a m b).flatMap_right Tree.own
    rw [List.flatMap_cons, ← pixelsL_eq_own, ← pixelsL_eq_own] at this
    rw [pixels, pixels, List.append_assoc]
    exact this.symm.append_left o
  | under _ ih => exact one rfl (ih.1.append_left _)
  | frame a b _ ih =>
    refine ⟨by simp only [pixelsL_append]; exact (ih.1.append_left _).append_right _,
      fun t' ht' => ?_⟩
    simp only [List.mem_append] at ht' ⊢
    rcases ht' with (ht' | ht') | ht'
    · exact ⟨t', .inl (.inl ht'), rfl, .refl _⟩
    · obtain ⟨t, ht, e⟩ := ih.2 t' ht'
      exact ⟨t, .inl (.inr ht), e⟩
    · exact ⟨t', .inr ht', rfl, .refl _⟩

end Dissolve

end Prune
namespace P21
open Prune

/-- `L` and `L'` list (`preL`) a forest before and after the child `m` of `P` is dissolved, `P`
becoming `P'` -/
structure Absorbed (L L' : List Tree) (P m P' : Tree) : Prop where
  parent : P ∈ L
  kid : m ∈ P.kids
  ids : (m.id :: L'.map Tree.id).Perm (L.map Tree.id)
  mem : P' ∈ L'
  id : P'.id = P.id
  own : P'.own = P.own ++ m.own
  kids : ∀ k' ∈ P'.kids, ∃ k, (k ∈ P.kids ∨ k ∈ m.kids) ∧ k.id = k'.id ∧ k'.pixels.Perm k.pixels
  rest : ∀ s' ∈ L', s' = P' ∨ ∃ s ∈ L, s.id = s'.id ∧ s'.own = s.own ∧
    ∀ k' ∈ s'.kids, ∃ k ∈ s.kids, k.id = k'.id ∧ k'.pixels.Perm k.pixels

/-- the `rest` clause for a structure that stays as it is -/
theorem Absorbed.keep {L : List Tree} {s : Tree} (hs : s ∈ L) :
    ∃ s₀ ∈ L, s₀.id = s.id ∧ s.own = s₀.own ∧
      ∀ k' ∈ s.kids, ∃ k ∈ s₀.kids, k.id = k'.id ∧ k'.pixels.Perm k.pixels :=
  ⟨s, hs, rfl, rfl, fun k' hk' => ⟨k', hk', rfl, .refl _⟩⟩

theorem Absorbed.frame {L L' : List Tree} {P m P' : Tree} (A B : List Tree)
    (h : Absorbed L L' P m P') : Absorbed (A ++ L ++ B) (A ++ L' ++ B) P m P' where
  parent := by simp [h.parent]
  kid := h.kid
  ids := by
    simp only [List.map_append, List.append_assoc]
    exact List.perm_middle.symm.trans ((h.ids.append_right _).append_left _)
  mem := by simp [h.mem]
  id := h.id
  own := h.own
  kids := h.kids
  rest := by
    intro s' hs'
    simp only [List.mem_append] at hs'
    rcases hs' with (hs' | hs') | hs'
    · exact .inr (keep (by simp [hs']))
    · exact (h.rest s' hs').imp_right fun ⟨s, hs, e⟩ => ⟨s, by simp [hs], e⟩
    · exact .inr (keep (by simp [hs']))

theorem Absorbed.cons {L L' : List Tree} {P m P' : Tree} (h : Absorbed L L' P m P') {t t' : Tree}
    (hid : t.id = t'.id) (hown : t'.own = t.own)
    (hk : ∀ k' ∈ t'.kids, ∃ k ∈ t.kids, k.id = k'.id ∧ k'.pixels.Perm k.pixels) :
    Absorbed (t :: L) (t' :: L') P m P' where
  parent := List.mem_cons_of_mem _ h.parent
  kid := h.kid
  ids := by
    simp only [List.map_cons, hid]
    exact (List.Perm.swap _ _ _).trans (h.ids.cons _)
  mem := List.mem_cons_of_mem _ h.mem
  id := h.id
  own := h.own
  kids := h.kids
  rest := by
    intro s' hs'
    rcases List.mem_cons.mp hs' with rfl | hs'
    · exact .inr ⟨t, List.mem_cons_self, hid, hown, hk⟩
    · exact (h.rest s' hs').imp_right fun ⟨s, hs, e⟩ => ⟨s, List.mem_cons_of_mem _ hs, e⟩

theorem absorbed_of_dissolve {g g' : List Tree} (h : Dissolve g g') :
    ∃ P m P', Absorbed (preL g) (preL g') P m P' := by
  induction h with
  | child i o a m b =>
    refine ⟨node i o (a ++ m :: b), m, node i (o ++ m.own) (a ++ b ++ m.kids), ?_⟩
    have hp := preL_dissolve a m b
    rw [preL_singleton, preL_singleton, pre, pre]
    exact {
      parent := List.mem_cons_self
      kid := by simp
      ids := (List.Perm.swap _ _ _).trans ((hp.map Tree.id).symm.cons i)
      mem := List.mem_cons_self
      id := rfl
      own := rfl
      kids := fun k' hk' => ⟨k', (List.mem_append.mp hk').imp_left fun h =>
        ((List.sublist_cons_self m b).append_left a).subset h, rfl, .refl _⟩
      rest := fun s' hs' => (List.mem_cons.mp hs').imp_right fun hs' =>
        Absorbed.keep (List.mem_cons_of_mem _ (hp.symm.subset (List.mem_cons_of_mem _ hs'))) }
  | @under i o ks ks' h ih =>
    obtain ⟨P, m, P', ih⟩ := ih
    refine ⟨P, m, P', ?_⟩
    simp only [preL_singleton, pre]
    exact ih.cons rfl rfl h.pixels_roots.2
  | frame a b _ ih =>
    obtain ⟨P, m, P', ih⟩ := ih
    exact ⟨P, m, P', by simpa only [preL_append] using ih.frame (preL a) (preL b)⟩

end P21
namespace Prune

theorem Dissolve.kids {f f' : List Tree} (h : Dissolve f f') :
    ∀ P' ∈ preL f', ∀ k' ∈ P'.kids,
      ∃ P ∈ preL f, ∃ k ∈ P.kids, k.id = k'.id ∧ k'.pixels.Perm k.pixels := by
  obtain ⟨P, m, P₁, hL⟩ := P21.absorbed_of_dissolve h
  intro P' hP' k' hk'
  rcases hL.rest P' hP' with rfl | ⟨s, hs, _, _, hk⟩
  · obtain ⟨k, hk | hk, e⟩ := hL.kids k' hk'
    · exact ⟨P, hL.parent, k, hk, e⟩
    · exact ⟨m, kid_mem_preL hL.parent hL.kid, k, hk, e⟩
  · obtain ⟨k, hk, e⟩ := hk k' hk'
    exact ⟨s, hs, k, hk, e⟩

theorem Dissolve.idsNodup {f f' : List Tree} (h : Dissolve f f') (hids : IdsNodup f) :
    IdsNodup f' :=
  let ⟨_, _, _, hL⟩ := P21.absorbed_of_dissolve h
  (List.nodup_cons.mp (hL.ids.nodup_iff.mpr hids)).2

namespace Dissolves
variable {f g : List Tree}

theorem roots_ids (h : Dissolves f g) : g.map Tree.id = f.map Tree.id := by
  induction h with
  | refl => rfl
  | tail _ hd ih => exact hd.roots_ids.trans ih

theorem idsNodup (h : Dissolves f g) (hids : IdsNodup f) : IdsNodup g := by
  induction h with
  | refl => exact hids
  | tail _ hd ih => exact hd.idsNodup ih

theorem pixels_roots (h : Dissolves f g) :
    (pixelsL g).Perm (pixelsL f) ∧
    ∀ t' ∈ g, ∃ t ∈ f, t.id = t'.id ∧ t'.pixels.Perm t.pixels := by
  induction h with
  | refl => exact ⟨.refl _, fun t ht => ⟨t, ht, rfl, .refl _⟩⟩
  | tail _ hd ih =>
    refine ⟨hd.pixels_roots.1.trans ih.1, fun t'' ht'' => ?_⟩
    obtain ⟨t', ht', e', p'⟩ := hd.pixels_roots.2 t'' ht''
    obtain ⟨t, ht, e, p⟩ := ih.2 t' ht'
    exact ⟨t, ht, e.trans e', p'.trans p⟩

theorem pixels (h : Dissolves f g) : (pixelsL g).Perm (pixelsL f) := h.pixels_roots.1

theorem kids (h : Dissolves f g) :
    ∀ P' ∈ preL g, ∀ k' ∈ P'.kids,
      ∃ P ∈ preL f, ∃ k ∈ P.kids, k.id = k'.id ∧ k'.pixels.Perm k.pixels := by
  induction h with
  | refl => exact fun P hP k hk => ⟨P, hP, k, hk, rfl, .refl _⟩
  | tail _ hd ih =>
    intro P'' hP'' k'' hk''
    obtain ⟨P', hP', k', hk', e', p'⟩ := hd.kids P'' hP'' k'' hk''
    obtain ⟨P, hP, k, hk, e, p⟩ := ih P' hP' k' hk'
    exact ⟨P, hP, k, hk, e.trans e', p'.trans p⟩

theorem regions (h : Dissolves f g) :
    ∀ s' ∈ preL g, ∃ s ∈ preL f, s.id = s'.id ∧ s'.pixels.Perm s.pixels :=
  preL_topdown
    (fun t' ht' => let ⟨t, ht, e⟩ := h.pixels_roots.2 t' ht'; ⟨t, mem_preL_of_mem ht, e⟩)
    fun P' hP' _ k' hk' => let ⟨_, hP, k, hk, e⟩ := h.kids P' hP' k' hk'; ⟨k, kid_mem_preL hP hk, e⟩

end Dissolves

end Prune
open Prune

theorem filter_id_split (a : List Tree) (m : Tree) (b : List Tree)
    (h : ((a ++ m :: b).map Tree.id).Nodup) :
    (a ++ m :: b).filter (fun c => c.id != m.id) = a ++ b := by
  rw [List.filter_append, List.filter_cons_of_neg (by simp), ← List.filter_append]
  exact List.filter_eq_self.mpr fun c hc => bne_iff_ne.mpr (List.ne_of_nodup_map_middle h c hc)

theorem mergeInto_eq (i : Nat) (o : List Nat) (a : List Tree) (m : Tree) (b : List Tree)
    (h : ((a ++ m :: b).map Tree.id).Nodup) :
    mergeInto (node i o (a ++ m :: b)) m = node i (o ++ m.own) (a ++ b ++ m.kids) := by
  simp only [mergeInto, id_node, own_node, kids_node, filter_id_split a m b h]

/-- the two shapes of `pruneAt`: one child dissolved, or, under a parent of exactly two, both -/
theorem pruneAt_cases (P k : Tree) (hk : k ∈ P.kids) (hids : IdsNodup [P]) :
    (∃ i o a b, P = node i o (a ++ k :: b) ∧ (a ++ k :: b).length ≠ 2 ∧
        pruneAt P k = node i (o ++ k.own) (a ++ b ++ k.kids)) ∨
    (∃ i o x y, P = node i o [x, y] ∧
        pruneAt P k = node i (o ++ x.own ++ y.own) (x.kids ++ y.kids)) := by
  cases P with | node i o ks =>
  simp only [kids_node] at hk
  by_cases h2 : ks.length = 2
  · right
    match ks, h2 with
    | [x, y], _ =>
      refine ⟨i, o, x, y, rfl, ?_⟩
      have e1 : mergeInto (node i o [x, y]) x = node i (o ++ x.own) (y :: x.kids) :=
        mergeInto_eq i o [] x [y] hids.kids_ids_nodup
      have hids' := (Dissolve.child i o [] x [y]).idsNodup hids
      have e2 : mergeInto (node i (o ++ x.own) (y :: x.kids)) y
          = node i (o ++ x.own ++ y.own) (x.kids ++ y.kids) :=
        mergeInto_eq i (o ++ x.own) [] y x.kids hids'.kids_ids_nodup
      show mergeInto (mergeInto (node i o [x, y]) x) y = _
      rw [e1, e2]
  · left
    obtain ⟨a, b, rfl⟩ := List.append_of_mem hk
    refine ⟨i, o, a, b, rfl, h2, ?_⟩
    rw [pruneAt, if_neg (by simpa using h2)]
    exact mergeInto_eq i o a k b hids.kids_ids_nodup

namespace Prune

/-- one successful scan (`step_of_pruneForest`) -/
inductive Step (ic : Tree → Tree → Bool) : List Tree → List Tree → Prop
  | merge {P k} : k ∈ P.kids → k.kids = [] → ic P k = false → Step ic [P] [pruneAt P k]
  | under {i o ks ks'} : Step ic ks ks' → Step ic [node i o ks] [node i o ks']
  | frame (a b) {l l'} : Step ic l l' → Step ic (a ++ l ++ b) (a ++ l' ++ b)

theorem step_of_pruneKids (ic : Tree → Tree → Bool) (P : Tree) :
    ∀ (rest done : List Tree) (t' : Tree), P.kids = done ++ rest →
      (∀ k ∈ rest, ∀ k', pruneIn ic k = some k' → Step ic [k] [k']) →
      pruneKids ic P done rest = some t' → Step ic [P] [t'] := by
  intro rest
  induction rest with
  | nil => intro done t' _ _ h; simp [pruneKids] at h
  | cons k rest ih =>
    intro done t' hP hk h
    have next := ih (done ++ [k]) t' (by simp [hP]) (fun x hx => hk x (List.mem_cons_of_mem _ hx))
    rw [pruneKids] at h
    split at h
    · rename_i hleaf
      split at h
      · exact next h
      · rename_i hic
        cases h
        exact .merge (by simp [hP]) ((isLeaf_iff k).1 hleaf) (by simpa using hic)
    · split at h
      · rename_i k' hp
        cases h
        have := Step.under (i := P.id) (o := P.own) (.frame done rest (hk k List.mem_cons_self k' hp))
        simpa [← hP, Tree.eta] using this
      · exact next h

theorem step_of_pruneIn (ic : Tree → Tree → Bool) (t t' : Tree) (h : pruneIn ic t = some t') :
    Step ic [t] [t'] := by
  induction t using Tree.ind generalizing t' with
  | h i o ks ih =>
    rw [pruneIn] at h
    exact step_of_pruneKids ic _ ks [] t' rfl ih h

theorem step_of_pruneForest' (ic : Tree → Tree → Bool) (f : List Tree) :
    ∀ (done f' : List Tree), pruneForest ic done f = some f' → Step ic (done ++ f) f' := by
  induction f with
  | nil => intro done f' h; simp [pruneForest] at h
  | cons t rest ih =>
    intro done f' h
    have next := ih (done ++ [t]) f'
    rw [pruneForest] at h
    split at h
    · simpa using next h
    · split at h
      · rename_i t' hp
        cases h
        simpa using Step.frame done rest (step_of_pruneIn ic t t' hp)
      · simpa using next h

theorem step_of_pruneForest {ic : Tree → Tree → Bool} {f f' : List Tree}
    (h : pruneForest ic [] f = some f') : Step ic f f' :=
  step_of_pruneForest' ic f [] f' h

/-- Induction over a step in a forest with distinct identifiers, `pruneAt` being resolved by
`pruneAt_cases`.  In `one` the leaf `k` brings no children (`a ++ b`); in `two` it is not said which
of `x` and `y` is the failing leaf. -/
theorem Step.ind_nodup {ic : Tree → Tree → Bool} {M : List Tree → List Tree → Prop}
    (one : ∀ i o a k b, k.kids = [] → ic (node i o (a ++ k :: b)) k = false →
      (a ++ k :: b).length ≠ 2 → IdsNodup [node i o (a ++ k :: b)] →
      M [node i o (a ++ k :: b)] [node i (o ++ k.own) (a ++ b)])
    (two : ∀ i o x y k, k ∈ [x, y] → k.kids = [] → ic (node i o [x, y]) k = false →
      IdsNodup [node i o [x, y]] →
      M [node i o [x, y]] [node i (o ++ x.own ++ y.own) (x.kids ++ y.kids)])
    (under : ∀ i o ks ks', IdsNodup [node i o ks] → Step ic ks ks' → M ks ks' →
      M [node i o ks] [node i o ks'])
    (frame : ∀ a b l l', IdsNodup (a ++ l ++ b) → Step ic l l' → M l l' →
      M (a ++ l ++ b) (a ++ l' ++ b))
    {f f' : List Tree} (h : Step ic f f') (hids : IdsNodup f) : M f f' := by
  induction h with
  | @merge P k hk hl hic =>
    rcases pruneAt_cases P k hk hids with ⟨i, o, a, b, rfl, h2, e⟩ | ⟨i, o, x, y, rfl, e⟩
    · rw [e, hl, List.append_nil]; exact one i o a k b hl hic h2 hids
    · rw [e]; exact two i o x y k hk hl hic hids
  | under h ih => exact under _ _ _ _ hids h (ih hids.kids)
  | frame a b h ih => exact frame a b _ _ hids h (ih hids.frame)

theorem Step.dissolves {ic : Tree → Tree → Bool} {f f' : List Tree} (h : Step ic f f')
    (hids : IdsNodup f) : Dissolves f f' := by
  refine h.ind_nodup (M := Dissolves) ?_ ?_ ?_ ?_ hids
  · intro i o a k b hl _ _ _
    have := Dissolve.child i o a k b
    rw [hl, List.append_nil] at this
    exact .tail (.refl _) this
  · intro i o x y k _ _ _ _
    exact .tail (.tail (.refl _) (.child i o [] x [y])) (.child i (o ++ x.own) [] y x.kids)
  · intro i o ks ks' _ _ ih; exact ih.under
  · intro a b l l' _ _ ih; exact ih.frame a b

end Prune
open Prune

theorem sizeL_filter_le (p : Tree → Bool) (l : List Tree) : sizeL (l.filter p) ≤ sizeL l := by
  induction l with
  | nil => simp [sizeL]
  | cons t ts ih =>
    rw [List.filter_cons]; split <;> simp only [sizeL] <;> omega

theorem sizeL_filter_mem (p : Tree → Bool) (l : List Tree) (k : Tree) (hk : k ∈ l)
    (hp : p k = false) : sizeL (l.filter p) + size k ≤ sizeL l := by
  obtain ⟨a, b, rfl⟩ := List.append_of_mem hk
  have := sizeL_filter_le p a
  have := sizeL_filter_le p b
  simp only [List.filter_append, List.filter_cons, hp, Bool.false_eq_true, if_false, sizeL_append,
    sizeL]
  omega

theorem mergeInto_size (P m : Tree) (hm : m ∈ P.kids) : size (mergeInto P m) < size P := by
  have := sizeL_filter_mem (fun c => c.id != m.id) P.kids m hm (by simp)
  rw [size_eq m] at this
  rw [size_eq P]
  simp only [mergeInto, size, sizeL_append]
  omega

theorem pruneAt_size (P k : Tree) (hk : k ∈ P.kids) : size (pruneAt P k) < size P := by
  unfold pruneAt
  split
  · rename_i h2
    cases P with | node i o ks =>
    simp only [kids_node] at h2 hk
    match ks, h2 with
    | [x, y], _ =>
      -- whether or not the two identifiers differ, neither child is left
      have h1 : ([x, y].filter (fun c => c.id != x.id)).filter (fun c => c.id != y.id) = [] := by
        by_cases e : y.id = x.id <;> simp [e]
      have h3 := sizeL_filter_le (fun c => c.id != y.id) x.kids
      simp only [kids_node, List.foldl_cons, List.foldl_nil, mergeInto, id_node, own_node, size,
        sizeL, sizeL_append, List.filter_append, size_eq x, size_eq y, h1]
      omega
  · exact mergeInto_size P k hk

theorem pruneAt_id (P k : Tree) : (pruneAt P k).id = P.id := by
  unfold pruneAt
  split
  · exact List.foldl_inv Tree.id mergeInto (fun _ _ => rfl) _ _
  · rfl

theorem Prune.Step.sizeL {ic : Tree → Tree → Bool} {f f' : List Tree} (h : Step ic f f') :
    Tree.sizeL f' < Tree.sizeL f := by
  induction h with
  | merge hk _ _ => simpa [Tree.sizeL] using pruneAt_size _ _ hk
  | under _ ih => simpa [Tree.sizeL, size] using ih
  | frame a b _ ih => simp only [sizeL_append]; omega

/-- `Prune.Step.sizeL` for a successful scan (`hids` is not needed) -/
theorem pruneForest_size (ic : Tree → Tree → Bool) (done f f' : List Tree)
    (h : pruneForest ic done f = some f') (hids : IdsNodup (done ++ f)) :
    Tree.sizeL f' < Tree.sizeL (done ++ f) :=
  have _ := hids
  (step_of_pruneForest' ic f done f' h).sizeL

namespace Prune.Step
variable {ic : Tree → Tree → Bool} {f f' : List Tree}

theorem idsNodup (h : Step ic f f') (hids : IdsNodup f) : IdsNodup f' :=
  (h.dissolves hids).idsNodup hids

theorem forall_kids {R : Tree → Prop}
    (hR : ∀ k k', k.id = k'.id → k'.pixels.Perm k.pixels → R k → R k')
    (h : Step ic f f') (hids : IdsNodup f) (hf : ∀ P ∈ preL f, ∀ k ∈ P.kids, R k) :
    ∀ P ∈ preL f', ∀ k ∈ P.kids, R k := fun P' hP' k' hk' =>
  let ⟨P, hP, k, hk, e, p⟩ := (h.dissolves hids).kids P' hP' k' hk'
  hR k k' e p (hf P hP k hk)

theorem pixels_ne (h : Step ic f f')
    (hids : IdsNodup f) (hpix : ∀ s ∈ preL f, s.pixels ≠ []) : ∀ s ∈ preL f', s.pixels ≠ [] := by
  intro s' hs' e
  obtain ⟨s, hs, _, pm⟩ := (h.dissolves hids).regions s' hs'
  rw [e] at pm
  exact hpix s hs (List.nil_perm.mp pm)

/-- the arity discipline is what the two-sibling rule is for -/
theorem arity (h : Step ic f f') (hids : IdsNodup f) (ha : ∀ s ∈ preL f, PArity s) :
    ∀ s ∈ preL f', PArity s := by
  revert ha
  refine h.ind_nodup (M := fun f f' => (∀ s ∈ preL f, PArity s) → ∀ s ∈ preL f', PArity s)
    ?_ ?_ ?_ ?_ hids
  · intro i o a k b _ _ h2 _
    simp only [preL, pre, pre_eq k, preL_append, List.append_nil, List.forall_mem_cons,
      List.forall_mem_append]
    refine fun ⟨hP, ha, _, hb⟩ => ⟨?_, ha, hb⟩
    -- a structure with a child and not two children has at least three
    simp only [PArity, kids_node, ← List.length_eq_zero_iff, List.length_append, List.length_cons]
      at hP h2 ⊢
    omega
  · intro i o x y k hk hl _ _
    simp only [preL, pre, pre_eq x, pre_eq y, preL_append, List.append_nil, List.forall_mem_cons,
      List.forall_mem_append]
    refine fun ⟨_, ⟨hx, hxs⟩, hy, hys⟩ => ⟨?_, hxs, hys⟩
    -- one of the two is a leaf: the children of the other one remain
    simp only [List.mem_cons, List.not_mem_nil, or_false] at hk
    rcases hk with rfl | rfl
    · rwa [PArity, kids_node, hl, List.nil_append]
    · rwa [PArity, kids_node, hl, List.append_nil]
  · intro i o ks ks' hids hs ih
    simp only [preL_singleton, pre, List.forall_mem_cons]
    refine fun ⟨hP, hks⟩ => ⟨?_, ih hks⟩
    have : ks'.length = ks.length := by simpa using congrArg List.length (hs.dissolves hids.kids).roots_ids
    simpa only [PArity, kids_node, ← List.length_eq_zero_iff, this] using hP
  · intro a b l l' _ _ ih
    simp only [preL_append, List.forall_mem_append]
    exact fun ⟨⟨ha, hl⟩, hb⟩ => ⟨⟨ha, ih hl⟩, hb⟩

end Prune.Step

theorem pruneIn_regions (ic : Tree → Tree → Bool) (t t' : Tree) (h : pruneIn ic t = some t')
    (hids : IdsNodup [t]) :
    ∀ s' ∈ Tree.preL [t'], ∃ s ∈ Tree.preL [t], s.id = s'.id ∧ s'.pixels.Perm s.pixels :=
  ((step_of_pruneIn ic t t' h).dissolves hids).regions

theorem pruneIn_idsNodup (ic : Tree → Tree → Bool) (t t' : Tree) (h : pruneIn ic t = some t')
    (hids : IdsNodup [t]) : IdsNodup [t'] :=
  (step_of_pruneIn ic t t' h).idsNodup hids

theorem pruneIn_arity (ic : Tree → Tree → Bool) (t t' : Tree) (h : pruneIn ic t = some t')
    (hids : IdsNodup [t]) (ha : ∀ s ∈ Tree.preL [t], PArity s) :
    ∀ s ∈ Tree.preL [t'], PArity s :=
  (step_of_pruneIn ic t t' h).arity hids ha

theorem pruneForest_ids_sublist (ic : Tree → Tree → Bool) (f f' : List Tree)
    (h : pruneForest ic [] f = some f') (hids : IdsNodup f) :
    ∀ i ∈ (Tree.preL f').map Tree.id, i ∈ (Tree.preL f).map Tree.id := by
  intro i hi
  obtain ⟨s', hs', rfl⟩ := List.mem_map.mp hi
  obtain ⟨s, hs, e, _⟩ := ((step_of_pruneForest h).dissolves hids).regions s' hs'
  exact List.mem_map.mpr ⟨s, hs, e⟩

theorem pruneIn_leaf (ic : Tree → Tree → Bool) {t : Tree} (h : t.kids = []) :
    pruneIn ic t = none := by
  cases t with | node i o ks =>
  obtain rfl : ks = [] := h
  simp [pruneIn, pruneKids]

theorem pruneKids_none_iff (ic : Tree → Tree → Bool) (P : Tree) (rest : List Tree) :
    ∀ done, pruneKids ic P done rest = none ↔
      ∀ k ∈ rest, (k.kids = [] → ic P k = true) ∧ pruneIn ic k = none := by
  induction rest with
  | nil => intro done; simp [pruneKids]
  | cons k rest ih =>
    intro done
    rw [pruneKids, List.forall_mem_cons, ← ih (done ++ [k])]
    by_cases hl : k.kids = []
    · rw [if_pos ((isLeaf_iff k).2 hl)]
      cases ic P k <;> simp [hl, pruneIn_leaf ic hl]
    · rw [if_neg (mt (isLeaf_iff k).1 hl)]
      cases pruneIn ic k <;> simp [hl]

theorem pruneIn_none_iff (ic : Tree → Tree → Bool) (t : Tree) :
    pruneIn ic t = none ↔ ∀ P ∈ pre t, ∀ L ∈ P.kids, L.kids = [] → ic P L = true := by
  induction t using Tree.ind with
  | h i o ks ih =>
    rw [pruneIn, pruneKids_none_iff]
    constructor
    · intro h P hP L hL hleaf
      rcases mem_pre.1 hP with rfl | hP
      · exact (h L hL).1 hleaf
      · obtain ⟨k, hk, hPk⟩ := mem_preL.1 hP
        exact (ih k hk).1 (h k hk).2 P hPk L hL hleaf
    · intro h k hk
      exact ⟨h _ (mem_pre_self _) k hk,
        (ih k hk).2 fun P hP => h P (pre_subset_pre (kid_mem_pre hk) P hP)⟩

theorem pruneForest_none_iff_pruneIn (ic : Tree → Tree → Bool) (f : List Tree) :
    ∀ done, pruneForest ic done f = none ↔ ∀ t ∈ f, pruneIn ic t = none := by
  induction f with
  | nil => intro done; simp [pruneForest]
  | cons t rest ih =>
    intro done
    rw [pruneForest, List.forall_mem_cons, ← ih (done ++ [t])]
    by_cases hl : t.kids = []
    · simp [(isLeaf_iff t).2 hl, pruneIn_leaf ic hl]
    · rw [if_neg (mt (isLeaf_iff t).1 hl)]
      cases pruneIn ic t <;> simp

theorem pruneForest_none_iff (ic : Tree → Tree → Bool) (f : List Tree) :
    pruneForest ic [] f = none ↔
      ∀ P ∈ Tree.preL f, ∀ L ∈ P.kids, L.kids = [] → ic P L = true := by
  rw [pruneForest_none_iff_pruneIn]
  simp only [pruneIn_none_iff]
  exact ⟨fun h P hP => let ⟨t, ht, hPt⟩ := mem_preL.1 hP; h t ht P hPt,
    fun h t ht P hP => h P (mem_preL.2 ⟨t, ht, hP⟩)⟩

/-- The distinctness that `hstep` may assume is carried along, and comes back with the conclusion. -/
theorem pruneLoop_induction {ic : Tree → Tree → Bool} {I : List Tree → Prop}
    (hstep : ∀ f f', IdsNodup f → I f → Step ic f f' → I f') :
    ∀ (n : Nat) (f : List Tree), IdsNodup f → I f →
      IdsNodup (pruneLoop ic n f) ∧ I (pruneLoop ic n f) := by
  intro n
  induction n with
  | zero => exact fun f hids h => ⟨hids, h⟩
  | succ n ih =>
    intro f hids h
    rw [pruneLoop]
    cases hp : pruneForest ic [] f with
    | none => exact ⟨hids, h⟩
    | some f' =>
      have hs := step_of_pruneForest hp
      exact ih f' (hs.idsNodup hids) (hstep f f' hids h hs)

theorem pruneLoop_idsNodup (ic : Tree → Tree → Bool) (n : Nat) (f : List Tree)
    (hids : IdsNodup f) : IdsNodup (pruneLoop ic n f) :=
  (pruneLoop_induction (I := fun _ => True) (fun _ _ _ _ _ => trivial) n f hids trivial).1

theorem pruneLoop_dissolves (ic : Tree → Tree → Bool) (n : Nat) (f : List Tree) (hids : IdsNodup f) :
    Dissolves f (pruneLoop ic n f) :=
  (pruneLoop_induction (I := Dissolves f) (fun _ _ hg h hs => h.trans (hs.dissolves hg)) n f hids
    (.refl f)).2

theorem pruneLoop_fixpoint_of_le (ic : Tree → Tree → Bool) (n : Nat) (f : List Tree)
    (hn : Tree.sizeL f ≤ n) : pruneForest ic [] (pruneLoop ic n f) = none := by
  induction n generalizing f with
  | zero =>
    rw [pruneLoop]
    cases hp : pruneForest ic [] f with
    | none => rfl
    | some f' => have := (step_of_pruneForest hp).sizeL; omega
  | succ n ih =>
    rw [pruneLoop]
    cases hp : pruneForest ic [] f with
    | none => exact hp
    | some f' =>
      have := (step_of_pruneForest hp).sizeL
      exact ih f' (by omega)

theorem pruneLoop_arity (ic : Tree → Tree → Bool) (n : Nat) (f : List Tree) (hids : IdsNodup f)
    (ha : ∀ s ∈ Tree.preL f, PArity s) : ∀ s ∈ Tree.preL (pruneLoop ic n f), PArity s :=
  (pruneLoop_induction (fun _ _ hg h hs => hs.arity hg h) n f hids ha).2

theorem pruneKids_congr {ic ic' : Tree → Tree → Bool} (P : Tree) :
    ∀ (rest done : List Tree), (∀ k ∈ rest, k.kids = [] → ic P k = ic' P k) →
      (∀ k ∈ rest, pruneIn ic k = pruneIn ic' k) →
      pruneKids ic P done rest = pruneKids ic' P done rest := by
  intro rest
  induction rest with
  | nil => intro done _ _; rw [pruneKids, pruneKids]
  | cons k rest ih =>
    intro done h1 h2
    rw [pruneKids, pruneKids,
      ih _ (fun x hx => h1 x (List.mem_cons_of_mem _ hx)) (fun x hx => h2 x (List.mem_cons_of_mem _ hx)),
      h2 k List.mem_cons_self]
    split
    · rename_i hleaf
      rw [h1 k List.mem_cons_self ((isLeaf_iff k).1 hleaf)]
    · rfl

theorem pruneIn_congr {ic ic' : Tree → Tree → Bool} (t : Tree)
    (h : ∀ P ∈ pre t, ∀ k ∈ P.kids, k.kids = [] → ic P k = ic' P k) : pruneIn ic t = pruneIn ic' t := by
  induction t using Tree.ind with
  | h i o ks ih =>
    rw [pruneIn, pruneIn]
    exact pruneKids_congr _ ks [] (fun k hk => h _ (mem_pre_self _) k hk)
      fun k hk => ih k hk fun P hP => h P (pre_subset_pre (kid_mem_pre hk) P hP)

theorem pruneForest_congr {ic ic' : Tree → Tree → Bool} (f : List Tree) :
    ∀ done, (∀ P ∈ preL f, ∀ k ∈ P.kids, k.kids = [] → ic P k = ic' P k) →
      pruneForest ic done f = pruneForest ic' done f := by
  induction f with
  | nil => intro done _; rw [pruneForest, pruneForest]
  | cons t rest ih =>
    intro done h
    rw [pruneForest, pruneForest,
      ih _ (fun P hP => h P (by rw [preL_cons]; exact List.mem_append_right _ hP)),
      pruneIn_congr t (fun P hP => h P (by rw [preL_cons]; exact List.mem_append_left _ hP))]

theorem pruneLoop_congr {ic ic' : Tree → Tree → Bool} {I : List Tree → Prop}
    (hI : ∀ f f', IdsNodup f → I f → Step ic f f' → I f')
    (hagree : ∀ f, I f → ∀ P ∈ preL f, ∀ k ∈ P.kids, k.kids = [] → ic P k = ic' P k) :
    ∀ (n : Nat) (f : List Tree), IdsNodup f → I f → pruneLoop ic n f = pruneLoop ic' n f := by
  intro n
  induction n with
  | zero => intro f _ _; rfl
  | succ n ih =>
    intro f hids h
    rw [pruneLoop, pruneLoop, ← pruneForest_congr f [] (hagree f h)]
    cases hp : pruneForest ic [] f with
    | none => rfl
    | some f' =>
      have hs := step_of_pruneForest hp
      exact ih f' (hs.idsNodup hids) (hI f f' hids h hs)

theorem mem_makeTrunkP {io : Tree → Bool} {f : List Tree} {t : Tree} :
    t ∈ makeTrunkP io f ↔ t ∈ f ∧ (t.kids = [] → io t = true) := by
  simp [makeTrunkP, mem_sortById, isLeaf, Decidable.imp_iff_not_or]

theorem pruneLoop_of_none (ic : Tree → Tree → Bool) (n : Nat) (f : List Tree)
    (h : pruneForest ic [] f = none) : pruneLoop ic n f = f := by
  cases n with
  | zero => rfl
  | succ n => rw [pruneLoop, h]

namespace PruneP

theorem sortById_idem (l : List Tree) : sortById (sortById l) = sortById l :=
  sortById_isSort.of_sorted (sortById_sorted l)

end PruneP

theorem makeTrunkP_idem (io : Tree → Bool) (f : List Tree) :
    makeTrunkP io (makeTrunkP io f) = makeTrunkP io f := by
  unfold makeTrunkP
  rw [sortById_isSort.of_sorted ((sortById_sorted f).filter _), List.filter_filter]
  simp

theorem prune_fixpoint (ic : Tree → Tree → Bool) (io : Tree → Bool) (f : List Tree) :
    pruneForest ic [] (prune ic io f) = none := by
  have hfix := pruneLoop_fixpoint_of_le ic _ f (Nat.le_refl _)
  rw [pruneForest_none_iff] at hfix ⊢
  intro P hP
  obtain ⟨t, ht, hPt⟩ := mem_preL.1 hP
  exact hfix P (mem_preL.2 ⟨t, (mem_makeTrunkP.1 ht).1, hPt⟩)

/-- no hypothesis on the identifiers -/
theorem prune_idempotent' (ic : Tree → Tree → Bool) (io : Tree → Bool) (f : List Tree) :
    prune ic io (prune ic io f) = prune ic io f := by
  have h := prune_fixpoint ic io f
  rw [prune.eq_1 ic io (prune ic io f), pruneLoop_of_none ic _ _ h]
  unfold prune
  exact makeTrunkP_idem io _

/-- `prune_idempotent'` with the hypothesis `hids`, which is not needed -/
theorem prune_idempotent (ic : Tree → Tree → Bool) (io : Tree → Bool) (f : List Tree)
    (hids : IdsNodup f) : prune ic io (prune ic io f) = prune ic io f :=
  have _ := hids
  prune_idempotent' ic io f

theorem pruneParam_effective (recorded req : Int)
    (h : recorded ≤ (pruneParam recorded req).1) :
    (pruneParam recorded req).2 = (pruneParam recorded req).1 := by
  simp only [pruneParam] at *
  rw [if_neg (by omega)]
