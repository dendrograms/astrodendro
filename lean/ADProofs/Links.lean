/-!
# Links: what the two object heaps (`Heap`, `PHeap`) have in common

Well-formedness looks at `alive`, the fuel and the `parent` / `kids` fields of the records only; what the proofs need
about these is proved once, for an arbitrary record type `O` (`Heap.links` / `PHeap.links` are the two instances).
`P17.WF` and `P33.WF`, which the statements of C14 assume, are structures of their own with the fields of `Links.WF`
written as `o.parent`, `o.kids` (`P33.WF` has distinct identifiers in addition); `WF.links` / `WF.of_links` go back and
forth.  That a changed heap is again well formed is checked on parent and children as functions of the identifier
(`wf_iff`), where no record has to be named.  No import.
-/

/-- `size` is the fuel the heap hands to its walks -/
structure Links (O : Type) where
  alive : List Nat
  size : Nat
  get : Nat → Option O
  parent : O → Option Nat
  kids : O → List Nat

namespace Links
variable {O : Type}

/-- acyclicity witness; the bound by `size` is what makes fuel `size` enough -/
def RankOK (F : Links O) (rk : Nat → Nat) : Prop :=
  ∀ i ∈ F.alive, ∀ o, F.get i = some o → rk i < F.size ∧ ∀ p, F.parent o = some p → rk p < rk i

structure WF (F : Links O) : Prop where
  alive_nodup : F.alive.Nodup
  alive_get : ∀ i ∈ F.alive, ∃ o, F.get i = some o
  parent_ok : ∀ i ∈ F.alive, ∀ o, F.get i = some o → ∀ p, F.parent o = some p →
    p ∈ F.alive ∧ ∃ po, F.get p = some po ∧ i ∈ F.kids po
  kids_ok : ∀ i ∈ F.alive, ∀ o, F.get i = some o → ∀ c ∈ F.kids o,
    c ∈ F.alive ∧ ∃ co, F.get c = some co ∧ F.parent co = some i
  kids_nodup : ∀ i ∈ F.alive, ∀ o, F.get i = some o → (F.kids o).Nodup
  rank : ∃ rk, RankOK F rk

/-- what `P17.SameLinks.links` compares -/
def link (F : Links O) (i : Nat) : Option (Option Nat × List Nat) :=
  (F.get i).map fun o => (F.parent o, F.kids o)

def parentOf (F : Links O) (i : Nat) : Option Nat := (F.get i).bind F.parent
def kidsOf (F : Links O) (i : Nat) : List Nat := ((F.get i).map F.kids).getD []

theorem parentOf_eq {F : Links O} {i : Nat} {o : O} (hg : F.get i = some o) : F.parentOf i = F.parent o := by
  simp [parentOf, hg]

theorem kidsOf_eq {F : Links O} {i : Nat} {o : O} (hg : F.get i = some o) : F.kidsOf i = F.kids o := by
  simp [kidsOf, hg]

theorem parentOf_eq_some {F : Links O} {i p : Nat} :
    F.parentOf i = some p ↔ ∃ o, F.get i = some o ∧ F.parent o = some p := Option.bind_eq_some_iff

theorem mem_kidsOf {F : Links O} {i c : Nat} : c ∈ F.kidsOf i ↔ ∃ o, F.get i = some o ∧ c ∈ F.kids o := by
  unfold kidsOf; cases F.get i <;> simp

theorem link_isSome (F : Links O) (i : Nat) : (F.link i).isSome = (F.get i).isSome := Option.isSome_map

theorem link_parent (F : Links O) (i : Nat) : (F.link i).bind (·.1) = F.parentOf i := by
  unfold link parentOf; cases F.get i <;> rfl

theorem link_kids (F : Links O) (i : Nat) : ((F.link i).map (·.2)).getD [] = F.kidsOf i := by
  unfold link kidsOf; cases F.get i <;> rfl

theorem wf_iff {F : Links O} : F.WF ↔ F.alive.Nodup ∧ (∀ i ∈ F.alive, (F.get i).isSome) ∧
    (∀ i ∈ F.alive, ∀ p, F.parentOf i = some p → p ∈ F.alive ∧ i ∈ F.kidsOf p) ∧
    (∀ i ∈ F.alive, ∀ c ∈ F.kidsOf i, c ∈ F.alive ∧ F.parentOf c = some i) ∧
    (∀ i ∈ F.alive, (F.kidsOf i).Nodup) ∧
    ∃ rk : Nat → Nat, ∀ i ∈ F.alive, rk i < F.size ∧ ∀ p, F.parentOf i = some p → rk p < rk i := by
  constructor
  · rintro ⟨h1, h2, h3, h4, h5, rk, h6⟩
    refine ⟨h1, fun i hi => ?_, fun i hi p hp => ?_, fun i hi c hc => ?_, fun i hi => ?_, rk, fun i hi => ?_⟩ <;>
      obtain ⟨o, hg⟩ := h2 i hi
    · rw [hg]; rfl
    · rw [parentOf_eq hg] at hp
      obtain ⟨hpa, po, hgp, hk⟩ := h3 i hi o hg p hp
      exact ⟨hpa, kidsOf_eq hgp ▸ hk⟩
    · rw [kidsOf_eq hg] at hc
      obtain ⟨hca, co, hgc, hp⟩ := h4 i hi o hg c hc
      exact ⟨hca, parentOf_eq hgc ▸ hp⟩
    · exact kidsOf_eq hg ▸ h5 i hi o hg
    · exact parentOf_eq hg ▸ h6 i hi o hg
  · rintro ⟨h1, h2, h3, h4, h5, rk, h6⟩
    refine ⟨h1, fun i hi => ?_, fun i hi o hg p hp => ?_, fun i hi o hg c hc => ?_, fun i hi o hg => ?_,
      rk, fun i hi o hg => ?_⟩
    · exact Option.isSome_iff_exists.1 (h2 i hi)
    · obtain ⟨hpa, hk⟩ := h3 i hi p (parentOf_eq hg ▸ hp)
      exact ⟨hpa, mem_kidsOf.1 hk⟩
    · obtain ⟨hca, hp⟩ := h4 i hi c (kidsOf_eq hg ▸ hc)
      exact ⟨hca, parentOf_eq_some.1 hp⟩
    · exact kidsOf_eq hg ▸ h5 i hi
    · exact parentOf_eq hg ▸ h6 i hi

/-- every quantifier is bounded by a list or an `Option`, so of a concrete heap this is decidable: how the example
    heaps are shown to be well formed -/
theorem WF.of_rank {F : Links O} (rk : Nat → Nat)
    (c : F.alive.Nodup ∧ ∀ i ∈ F.alive, (F.get i).isSome ∧ (F.kidsOf i).Nodup ∧ rk i < F.size ∧
      (∀ p ∈ F.parentOf i, p ∈ F.alive ∧ i ∈ F.kidsOf p ∧ rk p < rk i) ∧
      ∀ k ∈ F.kidsOf i, k ∈ F.alive ∧ F.parentOf k = some i) : F.WF :=
  wf_iff.2 ⟨c.1, fun i hi => (c.2 i hi).1,
    fun i hi p hp => ⟨((c.2 i hi).2.2.2.1 p hp).1, ((c.2 i hi).2.2.2.1 p hp).2.1⟩,
    fun i hi => (c.2 i hi).2.2.2.2, fun i hi => (c.2 i hi).2.1, rk,
    fun i hi => ⟨(c.2 i hi).2.2.1, fun p hp => ((c.2 i hi).2.2.2.1 p hp).2.2⟩⟩

theorem WF.congr {O' : Type} {F : Links O} (w : F.WF) {F' : Links O'} (ha : F'.alive = F.alive)
    (hs : F'.size = F.size) (hl : ∀ i, F'.link i = F.link i) : F'.WF := by
  rw [wf_iff] at w ⊢
  simpa only [← link_isSome, ← link_parent, ← link_kids, ha, hs, hl] using w

theorem WF.kid_rank {F : Links O} (w : F.WF) {rk} (hr : F.RankOK rk) {i c : Nat} {o : O} (hi : i ∈ F.alive)
    (hg : F.get i = some o) (hc : c ∈ F.kids o) : c ∈ F.alive ∧ rk i < rk c := by
  obtain ⟨hca, co, hgc, hcp⟩ := w.kids_ok i hi o hg c hc
  exact ⟨hca, (hr c hca co hgc).2 i hcp⟩

/-- a recursion that spends one unit of fuel per `kids` link gets from an alive `i` to the bottom of everything below
    `i` with fuel `n` such that `size ≤ n + rk i`; in particular with fuel `size` -/
theorem WF.down_induction {F : Links O} (w : F.WF) {rk} (hr : F.RankOK rk) {motive : Nat → Nat → Prop}
    (step : ∀ n i o, i ∈ F.alive → F.get i = some o → F.size ≤ n + 1 + rk i →
      (∀ c ∈ F.kids o, c ∈ F.alive ∧ F.size ≤ n + rk c ∧ motive n c) → motive (n + 1) i) :
    ∀ n i, i ∈ F.alive → F.size ≤ n + rk i → motive n i := by
  intro n
  induction n with
  | zero =>
    intro i hi hn
    obtain ⟨o, hg⟩ := w.alive_get i hi
    have := (hr i hi o hg).1; omega
  | succ n ih =>
    intro i hi hn
    obtain ⟨o, hg⟩ := w.alive_get i hi
    refine step n i o hi hg hn fun c hc => ?_
    obtain ⟨hca, hrc⟩ := w.kid_rank hr hi hg hc
    exact ⟨hca, by omega, ih c hca (by omega)⟩

theorem WF.kids_induction {F : Links O} (w : F.WF) {P : Nat → Prop}
    (step : ∀ i o, i ∈ F.alive → F.get i = some o → (∀ c ∈ F.kids o, c ∈ F.alive ∧ P c) → P i) :
    ∀ i ∈ F.alive, P i := by
  obtain ⟨rk, hr⟩ := w.rank
  intro i hi
  exact w.down_induction hr (motive := fun _ i => P i)
    (fun _ i o hi hg _ ih => step i o hi hg fun c hc => ⟨(ih c hc).1, (ih c hc).2.2⟩) F.size i hi (by omega)

/-- `f` is defined by recursion on fuel; `body` is one unfolding, which may look at the recursive calls on the
    children only (`hb`) -/
theorem WF.fuel_stable {F : Links O} (w : F.WF) {rk} (hr : F.RankOK rk) {α : Type} (f : Nat → Nat → α)
    (body : Nat → O → (Nat → α) → α)
    (hf : ∀ n i o, F.get i = some o → f (n + 1) i = body i o (f n))
    (hb : ∀ i o g g', F.get i = some o → (∀ c ∈ F.kids o, g c = g' c) → body i o g = body i o g') :
    ∀ n i, i ∈ F.alive → F.size ≤ n + rk i → ∀ m, F.size ≤ m + rk i → f n i = f m i := by
  refine w.down_induction hr ?_
  intro n i o hi hg _ ih m hm
  cases m with
  | zero => have := (hr i hi o hg).1; omega
  | succ m =>
    rw [hf n i o hg, hf m i o hg]
    refine hb i o _ _ hg fun c hc => ?_
    have := (w.kid_rank hr hi hg hc).2
    exact (ih c hc).2.2 m (by omega)

theorem WF.fuel_unfold {F : Links O} (w : F.WF) {α : Type} (f : Nat → Nat → α)
    (body : Nat → O → (Nat → α) → α)
    (hf : ∀ n i o, F.get i = some o → f (n + 1) i = body i o (f n))
    (hb : ∀ i o g g', F.get i = some o → (∀ c ∈ F.kids o, g c = g' c) → body i o g = body i o g')
    {i : Nat} {o : O} (hi : i ∈ F.alive) (hg : F.get i = some o) : f F.size i = body i o (f F.size) := by
  obtain ⟨rk, hr⟩ := w.rank
  obtain ⟨k, hk⟩ : ∃ k, F.size = k + 1 := ⟨F.size - 1, by have := (hr i hi o hg).1; omega⟩
  rw [hk, hf k i o hg]
  refine hb i o _ _ hg fun c hc => ?_
  obtain ⟨hca, hrc⟩ := w.kid_rank hr hi hg hc
  exact w.fuel_stable hr f body hf hb k c hca (by omega) (k + 1) (by omega)

/-- contracting the edge from an alive `m` to its parent `p` (`g x` is what happens to the record of `x`); the rank
    of `F` still works for the result -/
theorem WF.contract {F : Links O} (w : F.WF) {m p : Nat} {mo : O} (hm : m ∈ F.alive)
    (hgm : F.get m = some mo) (hmp : F.parent mo = some p) {O' : Type} {F' : Links O'}
    (hal : F'.alive = F.alive.erase m) (hsz : F'.size = F.size) (g : Nat → O → O')
    (hget : ∀ x, F'.get x = (F.get x).map (g x))
    (hgp : ∀ x o, F'.parent (g x o) = if x ∈ F.kids mo then some p else F.parent o)
    (hgk : ∀ x o, F'.kids (g x o) = if x = p then (F.kids o).erase m ++ F.kids mo else F.kids o) : F'.WF := by
  obtain ⟨nd, hsome, hpo, hko, hkn, rk, hr⟩ := wf_iff.1 w
  have hpm : F.parentOf m = some p := parentOf_eq hgm ▸ hmp
  have hpa := (hpo m hm p hpm).1
  have ne : ∀ x ∈ F.alive, ∀ q, F.parentOf x = some q → q ≠ x := fun x hx q hq e =>
    Nat.lt_irrefl _ (e ▸ (hr x hx).2 q hq)
  have hal' : ∀ x, x ∈ F'.alive ↔ x ≠ m ∧ x ∈ F.alive := fun x => hal ▸ nd.mem_erase_iff
  have view : ∀ x ∈ F.alive, (F'.get x).isSome ∧
      F'.parentOf x = (if x ∈ F.kidsOf m then some p else F.parentOf x) ∧
      F'.kidsOf x = if x = p then (F.kidsOf x).erase m ++ F.kidsOf m else F.kidsOf x := fun x hx => by
    obtain ⟨o, hg⟩ := Option.isSome_iff_exists.1 (hsome x hx)
    have hg' : F'.get x = some (g x o) := by rw [hget, hg]; rfl
    rw [parentOf_eq hg', kidsOf_eq hg', parentOf_eq hg, kidsOf_eq hg, kidsOf_eq hgm, hgp, hgk, hg']
    exact ⟨rfl, rfl, rfl⟩
  refine wf_iff.2 ⟨hal ▸ nd.erase m, fun x hx => (view x ((hal' x).1 hx).2).1, ?_, ?_, ?_, rk, ?_⟩
  · intro x hx q hq
    obtain ⟨hxm, hxa⟩ := (hal' x).1 hx
    rw [(view x hxa).2.1] at hq
    split at hq <;> rename_i hxk
    · cases hq
      refine ⟨(hal' p).2 ⟨ne m hm p hpm, hpa⟩, ?_⟩
      rw [(view p hpa).2.2, if_pos rfl]
      exact List.mem_append.2 (.inr hxk)
    · obtain ⟨hqa, hxq⟩ := hpo x hxa q hq
      refine ⟨(hal' q).2 ⟨fun e => hxk (e ▸ hxq), hqa⟩, ?_⟩
      rw [(view q hqa).2.2]
      split
      · exact List.mem_append.2 (.inl ((List.mem_erase_of_ne hxm).2 hxq))
      · exact hxq
  · intro x hx c hc
    obtain ⟨hxm, hxa⟩ := (hal' x).1 hx
    rw [(view x hxa).2.2] at hc
    -- `c` was a child of `x` or of `m`
    have key : c ∈ F.alive ∧ c ≠ m ∧ (if c ∈ F.kidsOf m then some p else F.parentOf c) = some x := by
      split at hc <;> rename_i hxp
      · subst x
        rcases List.mem_append.1 hc with hc | hc
        · obtain ⟨hcm, hc⟩ := (hkn p hpa).mem_erase_iff.1 hc
          obtain ⟨hca, hcp⟩ := hko p hpa c hc
          exact ⟨hca, hcm, by rw [hcp]; exact ite_self _⟩
        · obtain ⟨hca, hcp⟩ := hko m hm c hc
          exact ⟨hca, (ne c hca m hcp).symm, if_pos hc⟩
      · obtain ⟨hca, hcp⟩ := hko x hxa c hc
        refine ⟨hca, fun e => hxp ?_, ?_⟩
        · rw [e, hpm] at hcp; exact (Option.some.inj hcp).symm
        · rw [if_neg fun hck => ?_, hcp]
          exact hxm (Option.some.inj (hcp.symm.trans (hko m hm c hck).2))
    obtain ⟨hca, hcm, hcp⟩ := key
    exact ⟨(hal' c).2 ⟨hcm, hca⟩, (view c hca).2.1.trans hcp⟩
  · intro x hx
    obtain ⟨hxm, hxa⟩ := (hal' x).1 hx
    rw [(view x hxa).2.2]
    split
    · subst x
      refine List.nodup_append.2 ⟨(hkn p hpa).erase m, hkn m hm, fun a ha b hb hab => ?_⟩
      -- a child of `p` is not a child of `m`
      subst hab
      have := (hko p hpa a (List.mem_of_mem_erase ha)).2.symm.trans (hko m hm a hb).2
      exact ne m hm p hpm (Option.some.inj this)
    · exact hkn x hxa
  · intro x hx
    obtain ⟨hxm, hxa⟩ := (hal' x).1 hx
    refine ⟨hsz ▸ (hr x hxa).1, fun q hq => ?_⟩
    rw [(view x hxa).2.1] at hq
    split at hq <;> rename_i hxk
    · cases hq
      exact Nat.lt_trans ((hr m hm).2 p hpm) ((hr x hxa).2 m (hko m hm x hxk).2)
    · exact (hr x hxa).2 q hq

end Links
