import ADModel.Criteria
import ADProofs.Contour
/-!
# ADProofs.TieProofs — ties: the assigned pixels do not depend on the admissible processing order
(for monotone criteria)   (C16 / C17, ties clause)

With equal values the forest `run E order` depends on the order among equal values, and
`makeTrunk` drops a parentless structure iff it is a leaf failing the value-less criteria.  For
criteria that can only turn true as a region grows (`MonoCrit`: everything except `min_sum` with
negative values) a parentless structure survives iff the criteria hold on its *region*
(`regionOK`), which depends on the pixel set only (`root_survives_iff`): a leaf is tested on its region by
definition, and a branch always passes, because it holds its creating pixel and a child that was significant there
(`run_branch_regionOK'`).  Since the regions of the parentless structures are the connected components of the
processed set (`ContourP.root_eq_component`), the surviving regions (`trunk_transfer`), hence the set of assigned
pixels (`assigned_order_independent'`), are the same for every processing order of the same pixels.

None of this needs the orders to be sorted.
-/
open Tree

namespace P32

def regionOK (val : Nat → Int) (cs : List Crit) (ps : List Nat) : Bool :=
  allOrphan val cs (Tree.node 0 ps [])

/-- a criterion that can only turn true when pixels of `S` are added to a region: all but `min_sum`, which needs
the values on `S` to be non-negative -/
def MonoCrit (val : Nat → Int) (S : Nat → Prop) : Crit → Prop
  | .minSum _ => ∀ x, S x → 0 ≤ val x
  | _ => True

theorem vmax_leaf (val : Nat → Int) (i : Nat) (ps : List Nat) :
    (Tree.node i ps []).vmax val = maxL 0 (ps.map val) := rfl

theorem vmin_leaf (val : Nat → Int) (i : Nat) (ps : List Nat) :
    (Tree.node i ps []).vmin val = minL 0 (ps.map val) := rfl

theorem sumVals_eq (val : Nat → Int) (ps : List Nat) : sumVals val ps = (ps.map val).sum := by
  unfold sumVals; rw [List.sum_eq_foldl]

theorem sumVals_perm (val : Nat → Int) {ps qs : List Nat} (h : ps.Perm qs) :
    sumVals val ps = sumVals val qs :=
  (h.map val).foldl_eq' (fun _ _ _ _ _ => Int.add_right_comm ..) 0

theorem sumVals_append (val : Nat → Int) (ps qs : List Nat) :
    sumVals val (ps ++ qs) = sumVals val ps + sumVals val qs := by
  simp [sumVals_eq]

theorem sumVals_nonneg (val : Nat → Int) (ps : List Nat) (h : ∀ x ∈ ps, 0 ≤ val x) :
    0 ≤ sumVals val ps := by
  rw [sumVals_eq]
  induction ps with
  | nil => simp
  | cons a l ih =>
    rw [List.map_cons, List.sum_cons]
    exact Int.add_nonneg (h a List.mem_cons_self) (ih fun x hx => h x (List.mem_cons_of_mem _ hx))

theorem orphan_region (val : Nat → Int) (c : Crit) (ps : List Nat) :
    c.orphan val (Tree.node 0 ps []) =
      match c with
      | .minDelta d => decide (d ≤ maxL 0 (ps.map val) - minL 0 (ps.map val))
      | .minNpix n  => decide (n ≤ ps.length)
      | .minPeak x  => decide (x ≤ maxL 0 (ps.map val))
      | .minSum s   => decide (s ≤ sumVals val ps)
      | .seeds sd   => ps.any (fun p => sd.contains p) := by
  cases c <;> simp only [Crit.orphan, pixels_leaf, vmax_leaf, vmin_leaf] <;> rfl

theorem orphan_region_perm (val : Nat → Int) (c : Crit) {ps qs : List Nat} (h : ps.Perm qs) :
    c.orphan val (Tree.node 0 ps []) = c.orphan val (Tree.node 0 qs []) := by
  rw [orphan_region, orphan_region]
  cases c <;> simp only
  · rw [maxL_congr fun _ => (h.map val).mem_iff, minL_congr fun _ => (h.map val).mem_iff]
  · rw [h.length_eq]
  · rw [maxL_congr fun _ => (h.map val).mem_iff]
  · rw [sumVals_perm val h]
  · exact h.any_eq

theorem regionOK_perm (val : Nat → Int) (cs : List Crit) {ps qs : List Nat} (h : ps.Perm qs) :
    regionOK val cs ps = regionOK val cs qs := by
  unfold regionOK allOrphan
  exact List.all_congr rfl (fun c => orphan_region_perm val c h)

theorem orphan_region_append (val : Nat → Int) (S : Nat → Prop) (c : Crit) (hm : MonoCrit val S c)
    (ps rs : List Nat) (hS : ∀ x ∈ rs, S x) (hne : ps ≠ [])
    (h : c.orphan val (Tree.node 0 ps []) = true) : c.orphan val (Tree.node 0 (ps ++ rs) []) = true := by
  rw [orphan_region] at h ⊢
  have hne' : ps.map val ≠ [] := mt List.map_eq_nil_iff.mp hne
  have hsub : ∀ x ∈ ps.map val, x ∈ (ps ++ rs).map val := fun x hx =>
    List.map_append ▸ List.mem_append_left _ hx
  have hmax := maxL_mono 0 hne' hsub
  have hmin := minL_anti 0 hne' hsub
  cases c with
  | minDelta d => exact decide_eq_true (Int.le_trans (of_decide_eq_true h) (Int.sub_le_sub hmax hmin))
  | minNpix n => exact decide_eq_true (List.length_append ▸ Nat.le_add_right_of_le (of_decide_eq_true h))
  | minPeak x => exact decide_eq_true (Int.le_trans (of_decide_eq_true h) hmax)
  | minSum s =>
    have hrs := sumVals_nonneg val rs fun x hx => hm x (hS x hx)
    exact decide_eq_true
      (sumVals_append .. ▸ Int.le_trans (of_decide_eq_true h) (Int.le_add_of_nonneg_right hrs))
  | seeds sd => exact List.any_append.trans (Bool.or_eq_true_iff.mpr (.inl h))

theorem regionOK_grow (val : Nat → Int) (cs : List Crit) (S : Nat → Prop)
    (hm : ∀ c ∈ cs, MonoCrit val S c) {ps rs qs : List Nat} (hperm : qs.Perm (ps ++ rs))
    (hS : ∀ x ∈ rs, S x) (hne : ps ≠ [])
    (h : regionOK val cs ps = true) : regionOK val cs qs = true := by
  rw [regionOK_perm val cs hperm]
  exact List.all_eq_true.mpr fun c hc =>
    orphan_region_append val S c (hm c hc) ps rs hS hne (List.all_eq_true.mp h c hc)

theorem regionOK_mono (val : Nat → Int) (cs : List Crit) (S : Nat → Prop)
    (hm : ∀ c ∈ cs, MonoCrit val S c) {ps qs : List Nat} (hsub : ps.Sublist qs)
    (hS : ∀ x ∈ qs, S x) (hne : ps ≠ []) :
    regionOK val cs ps = true → regionOK val cs qs = true := by
  intro h
  obtain ⟨rs, hrs⟩ := hsub.exists_perm_append
  exact regionOK_grow val cs S hm hrs
    (fun x hx => hS x (hrs.mem_iff.mpr (List.mem_append_right _ hx))) hne h

theorem regionOK_mono_subset (val : Nat → Int) (cs : List Crit) (S : Nat → Prop)
    (hm : ∀ c ∈ cs, MonoCrit val S c) {ps qs : List Nat} (hnd : ps.Nodup) (hsub : ∀ x ∈ ps, x ∈ qs)
    (hS : ∀ x ∈ qs, S x) (hne : ps ≠ []) :
    regionOK val cs ps = true → regionOK val cs qs = true := by
  intro h
  obtain ⟨rs, hrs⟩ := List.exists_perm_append_of_subset hnd hsub
  exact regionOK_grow val cs S hm hrs
    (fun x hx => hS x (hrs.mem_iff.mpr (List.mem_append_right _ hx))) hne h

/-- Except for `min_delta` the test at a meeting reads the leaf as the value-less test does, and
`min_delta` compares the peak with the meeting value, which is then a value of the region. -/
theorem atMerge_region (val : Nat → Int) (S : Nat → Prop) (c : Crit) (hm : MonoCrit val S c)
    (i : Nat) (o : List Nat) (p : Nat) (hne : o ≠ []) (hSp : S p)
    (h : c.atMerge val (Tree.node i o []) (val p) = true) :
    c.orphan val (Tree.node 0 (p :: o) []) = true := by
  rw [orphan_region_perm val c (List.perm_append_singleton p o).symm]
  have happ := orphan_region_append val S c hm o [p] (fun x hx => List.mem_singleton.mp hx ▸ hSp) hne
  cases c with
  | minDelta d =>
    rw [orphan_region]
    have hmax := maxL_mono 0 (a := o.map val) (b := (o ++ [p]).map val) (mt List.map_eq_nil_iff.mp hne)
      fun x hx => List.map_append ▸ List.mem_append_left _ hx
    have hmin : minL 0 ((o ++ [p]).map val) ≤ val p :=
      minL_le (List.mem_map_of_mem (List.mem_append_right _ List.mem_cons_self))
    exact decide_eq_true (Int.le_trans (of_decide_eq_true h) (Int.sub_le_sub hmax hmin))
  | _ => exact happ h

theorem merge_indep_regionOK (val : Nat → Int) (cs : List Crit) (S : Nat → Prop)
    (hm : ∀ c ∈ cs, MonoCrit val S c) (t : Tree) (p : Nat) (hleaf : t.kids = []) (hown : t.own ≠ [])
    (hSp : S p) (h : allMerge val cs t p (val p) = true) :
    regionOK val cs (p :: t.pixels) = true := by
  obtain ⟨i, o, ks⟩ := t
  cases hleaf
  rw [pixels_leaf]
  exact List.all_eq_true.mpr fun c hc =>
    atMerge_region val S c (hm c hc) i o p hown hSp (List.all_eq_true.mp h c hc)

/-- A branch holds its creating pixel and a child that was significant there: a leaf that passed the criteria at that
pixel, or a branch, which satisfies them by induction; the criteria are monotone. -/
theorem run_branch_regionOK' (val : Nat → Int) (nbrs : Nat → List Nat) (cs : List Crit)
    (order : List Nat) (S : Nat → Prop) (hSo : ∀ x ∈ order, S x) (hm : ∀ c ∈ cs, MonoCrit val S c) :
    ∀ t ∈ preL (run (envOf val nbrs cs) order), t.kids ≠ [] → regionOK val cs t.pixels = true := by
  intro t
  induction t using Tree.ind with
  | h i o ks ih =>
    intro ht hk
    obtain ⟨L, hL⟩ := List.exists_mem_of_ne_nil _ hk
    have hLt := kid_mem_preL ht hL
    have hLo := run_own_nonempty _ order L hLt
    have hS : ∀ x ∈ (node i o ks).pixels, S x := fun x hx =>
      hSo x ((mem_run_pixels _ order x).mp (pixels_sub_preL _ _ ht x hx))
    have hsub : (i :: L.pixels).Sublist (node i o ks).pixels :=
      (List.singleton_sublist.mpr (run_id_mem_own _ order _ ht)).append (pixels_sublist_pixelsL hL)
    by_cases hleaf : L.kids = []
    · exact regionOK_mono val cs S hm hsub hS (List.cons_ne_nil _ _)
        (merge_indep_regionOK val cs S hm L i hleaf hLo (hS i (hsub.subset List.mem_cons_self))
          (ContourP.run_leaf_kid_significant _ order _ ht L hL hleaf).2)
    · exact regionOK_mono val cs S hm ((List.sublist_cons_self i _).trans hsub) hS
        (fun e => hLo (List.append_eq_nil_iff.mp (pixels_eq L ▸ e)).1) (ih L hL hLt hleaf)

/-- `run_branch_regionOK'` for `S` the processed pixels; `hnd` and `hsorted` are not used. -/
theorem run_branch_regionOK (val : Nat → Int) (nbrs : Nat → List Nat) (cs : List Crit)
    (order : List Nat) (hnd : order.Nodup) (hsorted : order.Pairwise (fun a b => val b ≤ val a))
    (hm : ∀ c ∈ cs, MonoCrit val (fun x => x ∈ order) c) :
    ∀ t ∈ preL (run (envOf val nbrs cs) order), t.kids ≠ [] → regionOK val cs t.pixels = true := by
  have _ := hnd
  have _ := hsorted
  exact run_branch_regionOK' val nbrs cs order (fun x => x ∈ order) (fun _ hx => hx) hm

theorem allOrphan_leaf (val : Nat → Int) (cs : List Crit) (t : Tree) (hleaf : t.kids = []) :
    allOrphan val cs t = regionOK val cs t.pixels := by
  obtain ⟨i, o, ks⟩ := t
  cases hleaf
  rw [pixels_leaf]
  exact List.all_congr rfl fun c => by cases c <;> rfl

theorem root_survives_iff (val : Nat → Int) (nbrs : Nat → List Nat) (cs : List Crit)
    (order : List Nat) (S : Nat → Prop) (hSo : ∀ x ∈ order, S x) (hm : ∀ c ∈ cs, MonoCrit val S c) :
    ∀ t ∈ run (envOf val nbrs cs) order,
      (t ∈ makeTrunk (envOf val nbrs cs) (run (envOf val nbrs cs) order) ↔
        regionOK val cs t.pixels = true) := by
  intro t ht
  rw [P9.makeTrunk_mem_iff]
  by_cases hleaf : t.kids = []
  · have e : (envOf val nbrs cs).indepOrphan t = regionOK val cs t.pixels := allOrphan_leaf val cs t hleaf
    rw [e]
    simp [hleaf, ht]
  · have hok := run_branch_regionOK' val nbrs cs order S hSo hm t (mem_preL_of_mem ht) hleaf
    simp [hleaf, ht, hok]

/-- any criteria: both regions are the connected component of a common pixel -/
theorem root_transfer (E : Env) (hsym : ∀ x y, y ∈ E.nbrs x → x ∈ E.nbrs y) (o₁ o₂ : List Nat)
    (hperm : o₁.Perm o₂) (hnd : o₁.Nodup) :
    ∀ t₁ ∈ run E o₁, ∃ t₂ ∈ run E o₂, t₁.pixels.Perm t₂.pixels := by
  intro t₁ h₁
  obtain ⟨p, hp⟩ := List.exists_mem_of_ne_nil _ (run_own_nonempty E o₁ t₁ (mem_preL_of_mem h₁))
  have hp := own_pixels_sub t₁ hp
  obtain ⟨t₂, h₂, hp₂⟩ := mem_pixelsL.mp
    ((mem_run_pixels E o₂ p).mpr (hperm.mem_iff.mp (pixels_mem_order h₁ hp)))
  refine ⟨t₂, h₂, (List.perm_ext_iff_of_nodup
    ((run_pixels_nodup E o₁ hnd).sublist (pixels_sublist_pixelsL h₁))
    ((run_pixels_nodup E o₂ (hperm.nodup_iff.mp hnd)).sublist (pixels_sublist_pixelsL h₂))).mpr
    fun x => ?_⟩
  rw [ContourP.root_eq_component E hsym o₁ h₁ hp, ContourP.root_eq_component E hsym o₂ h₂ hp₂]
  exact ⟨Conn.mono fun _ => hperm.mem_iff.mp, Conn.mono fun _ => hperm.mem_iff.mpr⟩

theorem trunk_transfer (val : Nat → Int) (nbrs : Nat → List Nat) (cs : List Crit) (o₁ o₂ : List Nat)
    (hsym : ∀ x y, y ∈ nbrs x → x ∈ nbrs y) (hperm : o₁.Perm o₂) (hnd : o₁.Nodup)
    (S : Nat → Prop) (hSo : ∀ x ∈ o₁, S x) (hm : ∀ c ∈ cs, MonoCrit val S c) :
    ∀ t₁ ∈ makeTrunk (envOf val nbrs cs) (run (envOf val nbrs cs) o₁),
      ∃ t₂ ∈ makeTrunk (envOf val nbrs cs) (run (envOf val nbrs cs) o₂), t₁.pixels.Perm t₂.pixels := by
  intro t₁ h₁
  have hr₁ := ((P9.makeTrunk_mem_iff _ _ _).mp h₁).1
  obtain ⟨t₂, hr₂, hpp⟩ := root_transfer (envOf val nbrs cs) hsym o₁ o₂ hperm hnd t₁ hr₁
  refine ⟨t₂, ?_, hpp⟩
  rw [root_survives_iff val nbrs cs o₂ S (fun x hx => hSo x (hperm.mem_iff.mpr hx)) hm t₂ hr₂,
    ← regionOK_perm val cs hpp]
  exact (root_survives_iff val nbrs cs o₁ S hSo hm t₁ hr₁).mp h₁

theorem pixelsL_subset_of_regions {f g : List Tree}
    (h : ∀ t₁ ∈ f, ∃ t₂ ∈ g, t₁.pixels.Perm t₂.pixels) : ∀ p ∈ pixelsL f, p ∈ pixelsL g := fun _ hp =>
  have ⟨t₁, h₁, hp₁⟩ := mem_pixelsL.mp hp
  have ⟨t₂, h₂, hpp⟩ := h t₁ h₁
  mem_pixelsL.mpr ⟨t₂, h₂, hpp.mem_iff.mp hp₁⟩

/-- `C17_assigned_order_independent` -/
theorem assigned_order_independent' (val : Nat → Int) (nbrs : Nat → List Nat) (cs : List Crit)
    (o₁ o₂ : List Nat) (hsym : ∀ x y, y ∈ nbrs x → x ∈ nbrs y) (hperm : o₁.Perm o₂) (hnd : o₁.Nodup)
    (hm : ∀ c ∈ cs, MonoCrit val (fun x => x ∈ o₁) c) :
    ∀ p, p ∈ pixelsL (makeTrunk (envOf val nbrs cs) (run (envOf val nbrs cs) o₁)) ↔
      p ∈ pixelsL (makeTrunk (envOf val nbrs cs) (run (envOf val nbrs cs) o₂)) := fun p =>
  ⟨pixelsL_subset_of_regions
      (trunk_transfer val nbrs cs o₁ o₂ hsym hperm hnd _ (fun _ hx => hx) hm) p,
    pixelsL_subset_of_regions
      (trunk_transfer val nbrs cs o₂ o₁ hsym hperm.symm (hperm.nodup_iff.mp hnd) _
        (fun _ hx => hperm.mem_iff.mpr hx) hm) p⟩

/-- `assigned_order_independent'` for two sorted orders; `hs₁`, `hs₂` are not used. -/
theorem assigned_order_independent (val : Nat → Int) (nbrs : Nat → List Nat) (cs : List Crit)
    (o₁ o₂ : List Nat) (hsym : ∀ x y, y ∈ nbrs x → x ∈ nbrs y) (hperm : o₁.Perm o₂) (hnd : o₁.Nodup)
    (hs₁ : o₁.Pairwise (fun a b => val b ≤ val a)) (hs₂ : o₂.Pairwise (fun a b => val b ≤ val a))
    (hm : ∀ c ∈ cs, MonoCrit val (fun x => x ∈ o₁) c) :
    ∀ p, p ∈ pixelsL (makeTrunk (envOf val nbrs cs) (run (envOf val nbrs cs) o₁)) ↔
      p ∈ pixelsL (makeTrunk (envOf val nbrs cs) (run (envOf val nbrs cs) o₂)) := by
  have _ := hs₁
  have _ := hs₂
  exact assigned_order_independent' val nbrs cs o₁ o₂ hsym hperm hnd hm

/-- `trunk_transfer` for two sorted orders and `S` the processed pixels; `hs₁`, `hs₂` are not used. -/
theorem trunk_regions_order_independent (val : Nat → Int) (nbrs : Nat → List Nat) (cs : List Crit)
    (o₁ o₂ : List Nat) (hsym : ∀ x y, y ∈ nbrs x → x ∈ nbrs y) (hperm : o₁.Perm o₂) (hnd : o₁.Nodup)
    (hs₁ : o₁.Pairwise (fun a b => val b ≤ val a)) (hs₂ : o₂.Pairwise (fun a b => val b ≤ val a))
    (hm : ∀ c ∈ cs, MonoCrit val (fun x => x ∈ o₁) c) :
    ∀ t₁ ∈ makeTrunk (envOf val nbrs cs) (run (envOf val nbrs cs) o₁),
      ∃ t₂ ∈ makeTrunk (envOf val nbrs cs) (run (envOf val nbrs cs) o₂), t₁.pixels.Perm t₂.pixels := by
  have _ := hs₁
  have _ := hs₂
  exact trunk_transfer val nbrs cs o₁ o₂ hsym hperm hnd _ (fun _ hx => hx) hm

namespace Ex

def row5 (p : Nat) : List Nat :=
  (List.range 5).filter (fun q => decide (p < 5 ∧ (q + 1 = p ∨ p + 1 = q)))
def ring5 (p : Nat) : List Nat := if p < 5 then [(p + 4) % 5, (p + 1) % 5] else []

theorem row5_symm : ∀ x y, y ∈ row5 x → x ∈ row5 y := by
  intro x y h
  simp only [row5, List.mem_filter, List.mem_range, decide_eq_true_eq] at h ⊢
  omega

theorem ring5_symm : ∀ x y, y ∈ ring5 x → x ∈ ring5 y := by
  intro x y h
  by_cases hx : x < 5
  · exact (by decide +kernel : ∀ x < 5, ∀ y ∈ ring5 x, x ∈ ring5 y) x hx y h
  · simp [ring5, hx] at h

/-- a plateau `1 1 1` between two peaks, `min_npix = 2` -/
def vA (p : Nat) : Int := [2, 1, 1, 1, 2].getD p 0
def EA : Env := envOf vA row5 [Crit.minNpix 2]
def oA₁ : List Nat := [0, 4, 1, 2, 3]
def oA₂ : List Nat := [0, 4, 1, 3, 2]

example : sortedDesc vA oA₁ = true ∧ sortedDesc vA oA₂ = true := by decide +kernel
/-- they give different forests: a single leaf, and a branch with two leaves -/
example : (preL (run EA oA₁)).length = 1 ∧ (preL (run EA oA₂)).length = 3 := by decide +kernel
example : ∀ p, p < 5 → (p ∈ pixelsL (makeTrunk EA (run EA oA₁)) ↔
    p ∈ pixelsL (makeTrunk EA (run EA oA₂))) := by decide +kernel
/-- `assigned_order_independent` applies to them: all its hypotheses hold here -/
example : ∀ p, p ∈ pixelsL (makeTrunk EA (run EA oA₁)) ↔ p ∈ pixelsL (makeTrunk EA (run EA oA₂)) :=
  assigned_order_independent vA row5 [Crit.minNpix 2] oA₁ oA₂ row5_symm (by decide +kernel) (by decide +kernel)
    (by decide +kernel) (by decide +kernel) (by intro c hc; simp at hc; subst hc; trivial)

/-- sharpness: `min_sum = -2` with negative values on a periodic row -/
def vB (p : Nat) : Int := [-3, -2, -3, -2, -3].getD p 0
def EB : Env := envOf vB ring5 [Crit.minSum (-2)]
def oB₁ : List Nat := [1, 3, 2, 0, 4]
def oB₂ : List Nat := [1, 3, 0, 2, 4]

example : sortedDesc vB oB₁ = true ∧ sortedDesc vB oB₂ = true ∧ oB₁.Perm oB₂ ∧ oB₁.Nodup := by decide +kernel
example : oB₁.Pairwise (fun a b => vB b ≤ vB a) ∧ oB₂.Pairwise (fun a b => vB b ≤ vB a) := by decide +kernel
/-- the first order assigns every pixel, the second none: without `MonoCrit` the assigned set
depends on the order among equal values -/
example : pixelsL (makeTrunk EB (run EB oB₁)) = [2, 0, 4, 1, 3] ∧
    pixelsL (makeTrunk EB (run EB oB₂)) = [] := by decide +kernel
example : pixelsL (makeTrunk EB (run EB oB₁)) ≠ pixelsL (makeTrunk EB (run EB oB₂)) := by decide +kernel
example : ¬ ∀ p, p ∈ pixelsL (makeTrunk EB (run EB oB₁)) ↔ p ∈ pixelsL (makeTrunk EB (run EB oB₂)) := by
  intro h; exact absurd ((h 0).mp (by decide +kernel)) (by decide +kernel)
/-- the hypothesis that fails -/
example : ¬ MonoCrit vB (fun x => x ∈ oB₁) (Crit.minSum (-2)) := by
  intro h; exact absurd (h 0 (by decide +kernel)) (by decide +kernel)

end Ex

end P32
