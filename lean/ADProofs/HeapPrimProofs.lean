import ADModel.HeapPrim
import ADProofs.CacheProofs

/-!
# HeapPrimProofs — reads and writes on the object heap (`ADModel/HeapPrim.lean`)

Every write is `Heap.update i f` for an `f` that keeps the identifier: `Heap.get` sees it through `P17.get_update`,
and `ids` and `alive` do not change.  What `get` and `fKids` see after a write is here; what a read of one cache field
(`fLvl`, `fAnc`, `fDesc`) sees stands next to the generated fragment that needs it, in ADGen/EquivHeap*.lean.

`get` finds the *first* object with an identifier, `update` rewrites *every* one.  The two views agree on heaps
whose identifiers are distinct (`UniqIds`): there `get`, `ids` and `alive` determine the heap (`heap_ext`).
The namespace is `GenEq`, that of the users in ADGen/EquivHeap*.lean.
-/

namespace GenEq
open Heap

def ids (h : Heap) : List Nat := h.objs.map (·.id)

def UniqIds (h : Heap) : Prop := (ids h).Nodup

theorem UniqIds.of_ids {h h' : Heap} (hu : UniqIds h) (e : ids h' = ids h) : UniqIds h' := by
  unfold UniqIds; rw [e]; exact hu

theorem get_of_mem {h : Heap} (hu : UniqIds h) {o : Obj} (ho : o ∈ h.objs) : h.get o.id = some o :=
  List.find?_key_of_mem Obj.id hu ho

/-- `h` is the heap that `a` and `b` were both made from by steps that keep `ids`: this is how the two sides of an
    equivalence come, and `UniqIds` is known of `h` only -/
theorem heap_ext {a b : Heap} (h : Heap) (hu : UniqIds h) (hia : ids a = ids h) (hib : ids b = ids h)
    (hal : a.alive = b.alive) (hg : ∀ x, a.get x = b.get x) : a = b := by
  cases a with | mk oa _ =>
  cases b with | mk ob _ =>
  cases hal
  have hnd : (oa.map Obj.id).Nodup := by rw [show oa.map Obj.id = ids h from hia]; exact hu
  rw [List.ext_find?_key Obj.id hnd (hia.trans hib.symm) hg]

theorem ids_update (h : Heap) (i : Nat) (f : Obj → Obj) (hf : ∀ o, (f o).id = o.id) :
    ids (h.update i f) = ids h :=
  List.map_key_map _ _ (fun o => by split <;> simp [hf]) h.objs

theorem update_update (h : Heap) (i : Nat) (f g : Obj → Obj) (hf : ∀ o, (f o).id = o.id) :
    (h.update i f).update i g = h.update i (g ∘ f) := by
  unfold Heap.update
  simp only [List.map_map, Heap.mk.injEq, and_true]
  apply List.map_congr_left
  intro o _
  simp only [Function.comp]
  by_cases hi : o.id == i <;> simp [hi, hf]

theorem update_congr (h : Heap) (i : Nat) (f g : Obj → Obj) (hfg : ∀ o, f o = g o) :
    h.update i f = h.update i g :=
  congrArg (h.update i) (funext hfg)

theorem update_self (h : Heap) (i : Nat) (f : Obj → Obj) (hf : ∀ o ∈ h.objs, o.id = i → f o = o) :
    h.update i f = h := by
  cases h with | mk objs alive =>
  simp only [Heap.update, Heap.mk.injEq, and_true]
  refine (List.map_congr_left fun o ho => ?_).trans (List.map_id objs)
  by_cases hi : o.id = i
  · simp [hi, hf o ho hi]
  · simp [hi]

/-- `h.fKids x` and `P41.kidsOf h x` of the proofs about the model unfold to the same term -/
theorem mem_fKids {h : Heap} {x c : Nat} : c ∈ h.fKids x ↔ ∃ o, h.get x = some o ∧ c ∈ o.kids := P41.mem_kidsOf

theorem fKids_update (h : Heap) (i : Nat) (f : Obj → Obj) (hid : ∀ o, (f o).id = o.id)
    (hk : ∀ o, (f o).kids = o.kids) (j : Nat) : (h.update i f).fKids j = h.fKids j := by
  unfold Heap.fKids
  rw [P17.get_update h i f hid]
  split
  · subst j; cases h.get i <;> simp [hk]
  · rfl

theorem get_update_fix {h : Heap} {i : Nat} {o : Obj} (hg : h.get i = some o) {f : Obj → Obj}
    (hid : ∀ o, (f o).id = o.id) (hf : f o = o) (j : Nat) : (h.update i f).get j = h.get j := by
  rw [P17.get_update h i f hid]
  split
  · subst j; rw [hg, Option.map_some, hf]
  · rfl

@[simp] theorem resetCache_id (o : Obj) : (Heap.resetCache o).id = o.id := rfl
@[simp] theorem resetCache_parent (o : Obj) : (Heap.resetCache o).parent = o.parent := rfl
@[simp] theorem resetCache_kids (o : Obj) : (Heap.resetCache o).kids = o.kids := rfl
@[simp] theorem resetCache_own (o : Obj) : (Heap.resetCache o).own = o.own := rfl

theorem get_update_reset (h : Heap) (i j : Nat) :
    (h.update i Heap.resetCache).get j = if j = i then (h.get i).map Heap.resetCache else h.get j :=
  by apply P17.get_update; intro _; rfl
theorem ids_update_reset (h : Heap) (i : Nat) : ids (h.update i Heap.resetCache) = ids h := by
  apply ids_update; intro _; rfl
theorem fKids_update_reset (h : Heap) (i j : Nat) : (h.update i Heap.resetCache).fKids j = h.fKids j := by
  apply fKids_update <;> (intro _; rfl)

theorem get_setParent (h : Heap) (i : Nat) v (j : Nat) :
    (h.setParent i v).get j = if j = i then (h.get i).map (fun o => { o with parent := v }) else h.get j :=
  by apply P17.get_update; intro _; rfl
theorem get_setKids (h : Heap) (i : Nat) v (j : Nat) :
    (h.setKids i v).get j = if j = i then (h.get i).map (fun o => { o with kids := v }) else h.get j :=
  by apply P17.get_update; intro _; rfl
theorem get_setOwn (h : Heap) (i : Nat) v (j : Nat) :
    (h.setOwn i v).get j = if j = i then (h.get i).map (fun o => { o with own := v }) else h.get j :=
  by apply P17.get_update; intro _; rfl
theorem get_setLvl (h : Heap) (i : Nat) v (j : Nat) :
    (h.setLvl i v).get j = if j = i then (h.get i).map (fun o => { o with lvl := v }) else h.get j :=
  by apply P17.get_update; intro _; rfl
theorem get_setAnc (h : Heap) (i : Nat) v (j : Nat) :
    (h.setAnc i v).get j = if j = i then (h.get i).map (fun o => { o with anc := v }) else h.get j :=
  by apply P17.get_update; intro _; rfl
theorem get_setDesc (h : Heap) (i : Nat) v (j : Nat) :
    (h.setDesc i v).get j = if j = i then (h.get i).map (fun o => { o with desc := v }) else h.get j :=
  by apply P17.get_update; intro _; rfl
theorem get_setNw (h : Heap) (i : Nat) v (j : Nat) :
    (h.setNw i v).get j = if j = i then (h.get i).map (fun o => { o with nw := v }) else h.get j :=
  by apply P17.get_update; intro _; rfl
theorem get_delAlive (h : Heap) (i j : Nat) : (h.delAlive i).get j = h.get j := rfl

theorem ids_setParent (h : Heap) (i : Nat) v : ids (h.setParent i v) = ids h := by apply ids_update; intro _; rfl
theorem ids_setKids (h : Heap) (i : Nat) v : ids (h.setKids i v) = ids h := by apply ids_update; intro _; rfl
theorem ids_setOwn (h : Heap) (i : Nat) v : ids (h.setOwn i v) = ids h := by apply ids_update; intro _; rfl
theorem ids_setLvl (h : Heap) (i : Nat) v : ids (h.setLvl i v) = ids h := by apply ids_update; intro _; rfl
theorem ids_setAnc (h : Heap) (i : Nat) v : ids (h.setAnc i v) = ids h := by apply ids_update; intro _; rfl
theorem ids_setDesc (h : Heap) (i : Nat) v : ids (h.setDesc i v) = ids h := by apply ids_update; intro _; rfl
theorem ids_setNw (h : Heap) (i : Nat) v : ids (h.setNw i v) = ids h := by apply ids_update; intro _; rfl
theorem ids_delAlive (h : Heap) (i : Nat) : ids (h.delAlive i) = ids h := rfl

theorem alive_setParent (h : Heap) (i : Nat) v : (h.setParent i v).alive = h.alive := rfl
theorem alive_setKids (h : Heap) (i : Nat) v : (h.setKids i v).alive = h.alive := rfl
theorem alive_setOwn (h : Heap) (i : Nat) v : (h.setOwn i v).alive = h.alive := rfl
theorem alive_setLvl (h : Heap) (i : Nat) v : (h.setLvl i v).alive = h.alive := rfl
theorem alive_setAnc (h : Heap) (i : Nat) v : (h.setAnc i v).alive = h.alive := rfl
theorem alive_setDesc (h : Heap) (i : Nat) v : (h.setDesc i v).alive = h.alive := rfl
theorem alive_setNw (h : Heap) (i : Nat) v : (h.setNw i v).alive = h.alive := rfl
theorem alive_delAlive (h : Heap) (i : Nat) : (h.delAlive i).alive = h.alive.erase i := rfl

theorem setAnc_setAnc (h : Heap) (i : Nat) (v w : Option Nat) : (h.setAnc i v).setAnc i w = h.setAnc i w :=
  update_update h i _ _ fun _ => rfl
theorem setDesc_setDesc (h : Heap) (i : Nat) (v w : Option (List Nat)) :
    (h.setDesc i v).setDesc i w = h.setDesc i w :=
  update_update h i _ _ fun _ => rfl

theorem fKids_setOwn (h : Heap) (i : Nat) v (j : Nat) : (h.setOwn i v).fKids j = h.fKids j := by
  apply fKids_update <;> (intro _; rfl)
theorem fKids_setDesc (h : Heap) (i : Nat) v (j : Nat) : (h.setDesc i v).fKids j = h.fKids j := by
  apply fKids_update <;> (intro _; rfl)

theorem ids_mergeWithParent (h : Heap) (m : Nat) : ids (h.mergeWithParent m) = ids h := by
  unfold Heap.mergeWithParent
  split
  · rfl
  · split
    · rfl
    · refine (List.foldl_inv ids _ (fun h c => ?_) _ _).trans ?_
      · apply ids_update; intro _; rfl
      · rw [ids_update, ids_update] <;> (intro _; rfl)

theorem ids_finishPrune (h : Heap) : ids h.finishPrune = ids h :=
  List.map_key_map _ _ (P17.finishF_id h) h.objs

theorem ids_newick (fuel : Nat) : ∀ (h : Heap) (i : Nat), ids (h.newick fuel i).1 = ids h := by
  induction fuel with
  | zero => intro h i; rfl
  | succ fuel ih =>
    intro h i
    unfold Heap.newick
    split
    · rfl
    · split
      · rfl
      · simp only []
        rw [ids_update _ _ _ (by intro _; rfl)]
        exact List.foldl_inv (fun acc : Heap × List String => ids acc.1) _ (fun acc c => ih acc.1 c) _ _

theorem ids_stepC (h : Heap) (op : COp) : ids (h.stepC op).1 = ids h := by
  cases op with
  | qNewick i => exact ids_newick h.size h i
  | prune ms =>
    show ids (h.prune ms) = ids h
    unfold Heap.prune
    rw [ids_finishPrune]
    exact List.foldl_inv ids _ ids_mergeWithParent ms h
  | _ =>
    -- the other cached queries return `h` or write to it through `update`
    simp only [Heap.stepC, Heap.level, Heap.ancestor, Heap.descendants]
    repeat' split
    all_goals simp (disch := intro _; rfl) only [ids_update]

theorem h0_uniqIds : UniqIds P17.h0 := by unfold UniqIds ids; decide +kernel

end GenEq
