import ADProofs.Contour
/-!
# Leaves and regional maxima (C05)

Setting: symmetric adjacency, pixels processed in non-increasing order of value (ties in any order); the above-threshold
pixels are the members of `order`.  Without pruning (`E.indep … = true`: a leaf is absorbed at a meeting only if its peak
equals the meeting value), leaf ↦ plateau of its peak is a bijection between the leaves of `run E order` and the regional
maxima of the above-threshold image.  For any criteria, the plateau of a peak pixel of a leaf is a regional maximum and
consists of peak pixels of that leaf.

A leaf is a parentless structure of the run on a prefix and everything processed later is strictly below its peak
(`leaf_hist`, from `ContourP.run_child_hist`); parentless structures are closed under adjacency, so no induction is needed
for `leaf_closed`: around a peak pixel of a leaf nothing is brighter and what is as bright belongs to the leaf.  That the
peak pixels are connected (`PlatInv`) and that a regional maximum is never owned by a branch or below the peak of a leaf
(`SurjInv`) are invariants of the loop without pruning, proved by adding one pixel at the end; `recv_flat` and `recv_leaf`
describe the structure that receives it.
-/
open Tree
open P10 (ownL)

namespace P20

def SamePlateau (E : Env) (order : List Nat) (p q : Nat) : Prop :=
  Conn E.nbrs (fun x => x ∈ order ∧ E.val x = E.val p) p q

/-- `p` belongs to a regional maximum: no pixel of its plateau has a brighter above-threshold
neighbour -/
def RegMax (E : Env) (order : List Nat) (p : Nat) : Prop :=
  p ∈ order ∧ ∀ q, SamePlateau E order p q → ∀ r ∈ E.nbrs q, r ∈ order → E.val r ≤ E.val p

section Plateau
variable {E : Env} {order o₁ o₂ : List Nat} {p q : Nat}

theorem regMax_of_plateau (hR : RegMax E order p) (h : SamePlateau E order p q) : RegMax E order q := by
  have ⟨hq, hv⟩ := Conn.mem ⟨hR.1, rfl⟩ h
  refine ⟨hq, fun q' hq' r hr hro => ?_⟩
  rw [hv]
  exact hR.2 q' (h.trans (hq'.mono fun x hx => ⟨hx.1, hx.2.trans hv⟩)) r hr hro

theorem samePlateau_mono (h : ∀ x ∈ o₁, x ∈ o₂) (hc : SamePlateau E o₁ p q) : SamePlateau E o₂ p q :=
  Conn.mono (fun x hx => ⟨h x hx.1, hx.2⟩) hc

theorem regMax_anti (h : ∀ x ∈ o₁, x ∈ o₂) (hp : p ∈ o₁) (hR : RegMax E o₂ p) : RegMax E o₁ p :=
  ⟨hp, fun q hq r hr hro => hR.2 q (samePlateau_mono h hq) r hr (h r hro)⟩

end Plateau

section Sorted
variable {E : Env} {order : List Nat} (hsorted : order.Pairwise (fun a b => E.val b ≤ E.val a))
include hsorted

/-- `≤` because every pixel of the child was processed before `P.id`, in non-increasing order; `≠` because a leaf whose
peak equals the meeting value is absorbed, not kept as a child. -/
theorem kid_leaf_lt : ∀ P ∈ preL (run E order), ∀ s ∈ P.kids, s.kids = [] → E.val P.id < s.vmax E.val := by
  intro P hP s hs hl
  obtain ⟨pre, suf, ho, hsr, _⟩ := ContourP.run_child_hist E order P hP s hs
  obtain ⟨a, ha, hv⟩ := vmax_attained E.val s (run_own_nonempty E pre s (mem_preL_of_mem hsr))
  exact Int.lt_iff_le_and_ne.mpr
    ⟨hv ▸ sorted_at ho hsorted a (pixels_mem_order hsr (own_pixels_sub s ha)),
      (ContourP.run_leaf_kid_significant E order P hP s hs hl).1.symm⟩

theorem leaf_hist : ∀ t ∈ preL (run E order), t.kids = [] →
    ∃ pre suf, order = pre ++ suf ∧ t ∈ run E pre ∧ ∀ x ∈ suf, E.val x < t.vmax E.val := by
  intro t ht hl
  rcases root_or_parent t ht with hr | ⟨P, hP, hk⟩
  · exact ⟨order, [], (List.append_nil _).symm, hr, fun _ h => nomatch h⟩
  · obtain ⟨pre, suf, ho, htr, _⟩ := ContourP.run_child_hist E order P hP t hk
    have hlt := kid_leaf_lt hsorted P hP t hk hl
    refine ⟨pre, P.id :: suf, ho, htr, fun x hx => ?_⟩
    rcases List.mem_cons.mp hx with rfl | hx
    · exact hlt
    · exact Int.lt_of_le_of_lt
        ((List.pairwise_cons.mp (List.pairwise_append.mp (ho ▸ hsorted)).2.1).1 x hx) hlt

theorem leaf_closed (hsym : ∀ x y, y ∈ E.nbrs x → x ∈ E.nbrs y) :
    ∀ t ∈ preL (run E order), t.kids = [] → ∀ a ∈ t.own, E.val a = t.vmax E.val →
      ∀ q ∈ E.nbrs a, q ∈ order → E.val q ≤ E.val a ∧ (E.val q = E.val a → q ∈ t.own) := by
  intro t ht hl a ha hpk q hq hqo
  obtain ⟨pre, suf, rfl, htr, hsuf⟩ := leaf_hist hsorted t ht hl
  rcases List.mem_append.mp hqo with hqp | hqs
  · -- a neighbour processed while `t` was parentless lies in `t`: parentless structures are closed
    obtain ⟨u, hu, hqu⟩ := mem_pixelsL.mp ((mem_run_pixels E pre q).mpr hqp)
    have e : t = u := Classical.byContradiction fun hne =>
      run_closed E hsym pre t htr u hu hne a (own_pixels_sub t ha) q hqu hq
    rw [← e, leaf_pixels hl] at hqu
    exact ⟨hpk ▸ le_vmax E.val t q hqu, fun _ => hqu⟩
  · have hlt : E.val q < E.val a := hpk ▸ hsuf q hqs
    exact ⟨Int.le_of_lt hlt, fun e => absurd e (Int.ne_of_lt hlt)⟩

end Sorted

section NoPrune
variable {E : Env} (hno : ∀ t p v, E.indep t p v = true)

section Receive
variable {pre : List Nat} {p : Nat} (hs : (pre ++ [p]).Pairwise (fun a b => E.val b ≤ E.val a))
include hno hs

theorem insig_own {m : Tree} (hm : m ∈ run E pre) (hi : insig E p m = true) :
    ∀ a ∈ m.own, E.val a = E.val p :=
  fun a ha => Int.le_antisymm (((insig_iff_of_noprune hno p m).mp hi).2 ▸ le_vmax E.val m a ha)
    (sorted_at rfl hs a (own_mem_order (mem_preL_of_mem hm) ha))

theorem vmax_grow {t : Tree} {abs : List Tree}
    (hperm : ((run E pre).filter (touches E p)).Perm (t :: abs))
    (habs : ∀ m ∈ abs, insig E p m = true) :
    (node t.id (t.own ++ p :: ownL abs) t.kids).vmax E.val = t.vmax E.val := by
  have ht := Recv.grow_root_mem hperm
  obtain ⟨b, hb, hv⟩ := vmax_attained E.val t (run_own_nonempty E pre t ht)
  have hge : E.val p ≤ t.vmax E.val := hv ▸ sorted_at rfl hs b (own_mem_order ht hb)
  refine (vmax_eq_iff (by simp)).mpr ⟨⟨b, by simp [hb], hv.symm⟩, fun a ha => ?_⟩
  rcases Recv.mem_own_grow.mp ha with h | rfl | ⟨m, hm, hx⟩
  · exact le_vmax E.val t a h
  · exact hge
  · exact insig_own hno hs (mem_adj_of_perm hperm (List.mem_cons_of_mem _ hm)).1 (habs m hm) a hx ▸ hge

theorem recv_flat {J : Tree} (hJ : Recv E (run E pre) p J)
    (hall : ∀ u ∈ run E pre, touches E p u = true → insig E p u = true) :
    J.kids = [] ∧ ∀ a ∈ J.own, E.val a = E.val p := by
  have hown : ∀ l : List Tree, (∀ m ∈ l, m ∈ run E pre ∧ touches E p m = true) →
      ∀ a ∈ p :: ownL l, E.val a = E.val p := by
    intro l hl a ha
    rcases List.mem_cons.mp ha with rfl | ha
    · rfl
    · obtain ⟨m, hm, hx⟩ := mem_ownL.mp ha
      exact insig_own hno hs (hl m hm).1 (hall m (hl m hm).1 (hl m hm).2) a hx
  cases hJ with
  | grow t abs hperm habs =>
    have ht := mem_adj_of_perm hperm List.mem_cons_self
    have hti := hall t ht.1 ht.2
    refine ⟨((insig_iff_of_noprune hno p t).mp hti).1, fun a ha => ?_⟩
    rcases List.mem_append.mp ha with h | h
    · exact insig_own hno hs ht.1 hti a h
    · exact hown abs (fun m hm => mem_adj_of_perm hperm (List.mem_cons_of_mem _ hm)) a h
  | new abs keep hperm habs hkeep hlen =>
    refine ⟨List.eq_nil_iff_forall_not_mem.mpr fun L hL => ?_,
      hown abs fun m hm => mem_adj_of_perm hperm (List.mem_append_left _ hm)⟩
    have h := mem_adj_of_perm hperm (List.mem_append_right _ hL)
    exact Bool.false_ne_true ((hkeep L hL).symm.trans (hall L h.1 h.2))

/-- the receiving structure, when it is a leaf: either all its pixels carry the value of `p`, or
one adjacent leaf that peaks above `p` has received everything and keeps its peak pixels -/
theorem recv_leaf {J : Tree} (hJ : Recv E (run E pre) p J) (hk : J.kids = []) :
    (∀ a ∈ J.own, E.val a = E.val p) ∨
    ∃ t ∈ run E pre, t.kids = [] ∧ J.vmax E.val = t.vmax E.val ∧
      ∀ a ∈ J.own, E.val a = J.vmax E.val → a ∈ t.own := by
  by_cases hall : ∀ u ∈ run E pre, touches E p u = true → insig E p u = true
  · exact .inl (recv_flat hno hs hJ hall).2
  refine .inr ?_
  cases hJ with
  | grow t abs hperm habs =>
    have ht := mem_adj_of_perm hperm List.mem_cons_self
    have hv := vmax_grow hno hs hperm habs
    -- the significant adjacent root is `t`, so `t` peaks above `p`
    have hne : t.vmax E.val ≠ E.val p := fun e => hall fun u hu hut => by
      rcases List.mem_cons.mp (hperm.mem_iff.mp (List.mem_filter.mpr ⟨hu, hut⟩)) with rfl | hm
      · exact (insig_iff_of_noprune hno p u).mpr ⟨hk, e⟩
      · exact habs u hm
    refine ⟨t, ht.1, hk, hv, fun a ha hpk => ?_⟩
    rw [hv] at hpk
    rcases Recv.mem_own_grow.mp ha with h | rfl | ⟨m, hm, hx⟩
    · exact h
    · exact absurd hpk.symm hne
    · exact absurd (hpk.symm.trans (insig_own hno hs
        (mem_adj_of_perm hperm (List.mem_cons_of_mem _ hm)).1 (habs m hm) a hx)) hne
  | new abs keep hperm habs =>
    refine absurd (fun u hu hut => habs u ?_) hall
    simpa [show keep = [] from hk] using hperm.mem_iff.mp (List.mem_filter.mpr ⟨hu, hut⟩)

end Receive

def PlatInv (E : Env) (o : List Nat) : Prop :=
  ∀ t ∈ preL (run E o), t.kids = [] → ∀ a ∈ t.own, ∀ b ∈ t.own, E.val a = t.vmax E.val →
    E.val b = t.vmax E.val → SamePlateau E o a b

def SurjInv (E : Env) (o : List Nat) : Prop :=
  ∀ x, RegMax E o x → ∀ t ∈ preL (run E o), x ∈ t.own → t.kids = [] ∧ E.val x = t.vmax E.val

section Step
variable (hsym : ∀ x y, y ∈ E.nbrs x → x ∈ E.nbrs y) {pre : List Nat} {p : Nat}
  (hs : (pre ++ [p]).Pairwise (fun a b => E.val b ≤ E.val a))
include hno hs

omit hsym in
theorem regMax_adj_insig (h : SurjInv E pre) (hR : RegMax E (pre ++ [p]) p) :
    ∀ u ∈ run E pre, touches E p u = true → insig E p u = true := by
  intro u hur hut
  have hsub : ∀ y ∈ pre, y ∈ pre ++ [p] := fun y hy => List.mem_append_left _ hy
  obtain ⟨r, hru, hrp⟩ := (touches_iff E p u).mp hut
  have hrpre := pixels_mem_order hur hru
  have hv : E.val r = E.val p :=
    Int.le_antisymm (hR.2 p (.refl p) r hrp (hsub r hrpre)) (sorted_at rfl hs r hrpre)
  -- the neighbour `r` lies in the same regional maximum, so its owner `s` is a leaf peaking at this level
  obtain ⟨s, hsu, hrs⟩ := mem_pixels_iff.mp hru
  obtain ⟨hsl, hsv⟩ := h r (regMax_anti hsub hrpre (regMax_of_plateau hR (.single hrp ⟨hsub r hrpre, hv⟩)))
    s (mem_preL.mpr ⟨u, hur, hsu⟩) hrs
  rcases mem_pre.mp hsu with rfl | hsk
  · exact (insig_iff_of_noprune hno p s).mpr ⟨hsl, hsv.symm.trans hv⟩
  · -- `s` is not below `u`: it would peak above the creating pixel of its parent, which is no darker than `p`
    obtain ⟨P, hP, hsP⟩ := exists_parent hur hsk
    exact absurd (Int.lt_of_le_of_lt (sorted_at rfl hs P.id (run_ids_subset E pre P hP))
        (kid_leaf_lt (hs.sublist (List.sublist_append_left pre [p])) P hP s hsP hsl))
      (Int.not_lt.mpr (Int.le_of_eq (hsv.symm.trans hv)))

include hsym

theorem regMax_of_absorbed {m : Tree} (hmr : m ∈ run E pre) (hmt : touches E p m = true)
    (hi : insig E p m = true) {x : Nat} (hx : x ∈ m.own) (hR : RegMax E (pre ++ [p]) x) :
    RegMax E (pre ++ [p]) p := by
  have hmp := mem_preL_of_mem hmr
  obtain ⟨r, hrm, hrp⟩ := (touches_iff E p m).mp hmt
  have hpx := leaf_pixels ((insig_iff_of_noprune hno p m).mp hi).1
  have hvx := insig_own hno hs hmr hi x hx
  -- `m` is connected and flat: a path in `m` from `x` to the neighbour `r` of `p`, then the step to `p`
  refine regMax_of_plateau hR (.tail (Conn.mono (fun y hy => ?_)
    (ContourP.run_all_connected E hsym pre m hmp x r (hpx ▸ hx) hrm)) (hsym _ _ hrp)
      ⟨List.mem_append_right _ List.mem_cons_self, hvx.symm⟩)
  rw [hpx] at hy
  exact ⟨List.mem_append_left _ (own_mem_order hmp hy), (insig_own hno hs hmr hi y hy).trans hvx.symm⟩

theorem step_Plat (h : PlatInv E pre) : PlatInv E (pre ++ [p]) := by
  intro t ht hl a ha b hb hpa hpb
  have hold : ∀ {a b}, SamePlateau E pre a b → SamePlateau E (pre ++ [p]) a b :=
    samePlateau_mono fun x hx => List.mem_append_left _ hx
  rcases node_step (run_snoc E pre p ▸ ht) with ht0 | hJ
  · exact hold (h t ht0 hl a ha b hb hpa hpb)
  · rcases recv_leaf hno hs hJ hl with hflat | ⟨t0, ht0, hl0, hv, hsub⟩
    · -- a connected leaf all of whose pixels carry the value of `p`
      have hpx := leaf_pixels hl
      refine (ContourP.run_all_connected E hsym _ t ht a b (hpx ▸ ha) (hpx ▸ hb)).mono fun x hx => ?_
      rw [hpx] at hx
      exact ⟨own_mem_order ht hx, (hflat x hx).trans (hflat a ha).symm⟩
    · exact hold (h t0 (mem_preL_of_mem ht0) hl0 a (hsub a ha hpa) b (hsub b hb hpb)
        (hpa.trans hv) (hpb.trans hv))

theorem step_Surj (h : SurjInv E pre) : SurjInv E (pre ++ [p]) := by
  have hsub : ∀ y ∈ pre, y ∈ pre ++ [p] := fun y hy => List.mem_append_left _ hy
  intro x hR t ht hxt
  rcases node_step (run_snoc E pre p ▸ ht) with ht0 | hJ
  · exact h x (regMax_anti hsub (own_mem_order ht0 hxt) hR) t ht0 hxt
  · -- the receiving structure, when `p` is in a regional maximum
    have fin : RegMax E (pre ++ [p]) p → t.kids = [] ∧ E.val x = t.vmax E.val := fun hRp =>
      have ⟨hk, hf⟩ := recv_flat hno hs hJ (regMax_adj_insig hno hs h hRp)
      ⟨hk, (hf x hxt).trans (vmax_of_flat (run_own_nonempty E _ t ht) hf).symm⟩
    cases hJ with
    | grow t0 abs hperm habs =>
      rcases Recv.mem_own_grow.mp hxt with h0 | rfl | ⟨m, hm, hxm⟩
      · have ht0 := Recv.grow_root_mem hperm
        have ⟨hl0, hv0⟩ := h x (regMax_anti hsub (own_mem_order ht0 h0) hR) t0 ht0 h0
        exact ⟨hl0, hv0.trans (vmax_grow hno hs hperm habs).symm⟩
      · exact fin hR
      · have hmr := mem_adj_of_perm hperm (List.mem_cons_of_mem _ hm)
        exact fin (regMax_of_absorbed hno hsym hs hmr.1 hmr.2 (habs m hm) hxm hR)
    | new abs keep hperm habs =>
      rcases Recv.mem_own_new.mp hxt with rfl | ⟨m, hm, hxm⟩
      · exact fin hR
      · have hmr := mem_adj_of_perm hperm (List.mem_append_left _ hm)
        exact fin (regMax_of_absorbed hno hsym hs hmr.1 hmr.2 (habs m hm) hxm hR)

end Step

include hno in
theorem run_inv (hsym : ∀ x y, y ∈ E.nbrs x → x ∈ E.nbrs y) (order : List Nat) :
    order.Pairwise (fun a b => E.val b ≤ E.val a) → PlatInv E order ∧ SurjInv E order := by
  induction order using List.snoc_induction with
  | nil => exact fun _ => ⟨fun _ ht => (nomatch ht), fun _ hx => (nomatch hx.1)⟩
  | snoc pre p ih =>
    intro hs
    have ⟨h1, h2⟩ := ih (hs.sublist (List.sublist_append_left pre [p]))
    exact ⟨step_Plat hno hsym hs h1, step_Surj hno hsym hs h2⟩

end NoPrune

section
variable (E : Env) (hsym : ∀ x y, y ∈ E.nbrs x → x ∈ E.nbrs y) (order : List Nat)
  (hsorted : order.Pairwise (fun a b => E.val b ≤ E.val a))
include hsym hsorted

theorem leaf_plateau_closed : ∀ t ∈ Tree.preL (run E order), t.kids = [] → ∀ p ∈ t.own,
    E.val p = t.vmax E.val → ∀ q, SamePlateau E order p q → q ∈ t.own ∧ E.val q = t.vmax E.val := by
  intro t ht hl p hp hpk
  refine Conn.induct_from (P := fun q => q ∈ t.own ∧ E.val q = t.vmax E.val) ⟨hp, hpk⟩ ?_
  intro b c hb hc hS
  exact ⟨(leaf_closed hsorted hsym t ht hl b hb.1 hb.2 c hc hS.1).2 (hS.2.trans (hpk.trans hb.2.symm)),
    hS.2.trans hpk⟩

theorem leaf_peak_regmax : ∀ t ∈ Tree.preL (run E order), t.kids = [] → ∀ p ∈ t.own,
    E.val p = t.vmax E.val → RegMax E order p := by
  intro t ht hl p hp hpk
  refine ⟨own_mem_order ht hp, fun q hq r hr hro => ?_⟩
  obtain ⟨hqt, hqv⟩ := leaf_plateau_closed E hsym order hsorted t ht hl p hp hpk q hq
  exact hpk ▸ hqv ▸ (leaf_closed hsorted hsym t ht hl q hqt hqv r hr hro).1

theorem leaves_distinct_maxima (hnd : order.Nodup) :
    ∀ t ∈ Tree.preL (run E order), ∀ t' ∈ Tree.preL (run E order),
    t.kids = [] → t ≠ t' → ∀ p ∈ t.own, ∀ q ∈ t'.own,
    E.val p = t.vmax E.val → ¬ SamePlateau E order p q := by
  intro t ht t' ht' hl hne p hp q hq hpk hsp
  obtain ⟨hqt, _⟩ := leaf_plateau_closed E hsym order hsorted t ht hl p hp hpk q hsp
  exact hne (List.eq_of_nodup_flatMap
    (pixelsL_eq_own _ ▸ run_pixels_nodup E order hnd) ht ht' hqt hq)

variable (hno : ∀ t p v, E.indep t p v = true)
include hno

theorem leaf_peak_one_plateau : ∀ t ∈ Tree.preL (run E order), t.kids = [] → ∀ p ∈ t.own,
    ∀ q ∈ t.own, E.val p = t.vmax E.val → E.val q = t.vmax E.val → SamePlateau E order p q :=
  (run_inv hno hsym order hsorted).1

theorem regmax_has_leaf : ∀ p, RegMax E order p →
    ∃ t ∈ Tree.preL (run E order), t.kids = [] ∧ p ∈ t.own ∧ E.val p = t.vmax E.val := by
  intro p hR
  obtain ⟨s, hs, hps⟩ := mem_pixelsL_iff.mp ((mem_run_pixels E order p).mpr hR.1)
  obtain ⟨hl, hv⟩ := (run_inv hno hsym order hsorted).2 p hR s hs hps
  exact ⟨s, hs, hl, hps, hv⟩

end

section Main
variable (E : Env) (hsym : ∀ x y, y ∈ E.nbrs x → x ∈ E.nbrs y) (order : List Nat)
  (hnd : order.Nodup) (hsorted : order.Pairwise (fun a b => E.val b ≤ E.val a))
  (hno : ∀ t p v, E.indep t p v = true)
include hsym hnd hsorted hno

/-! The results above in packaged form, each under all the hypotheses of the C05 statements; nothing in the development
rests on them. -/

/-- `leaf_plateau_closed` with `leaf_peak_one_plateau` (`hnd` is not needed) -/
theorem leaf_plateau_iff : ∀ t ∈ Tree.preL (run E order), t.kids = [] → ∀ p ∈ t.own,
    E.val p = t.vmax E.val → ∀ q, SamePlateau E order p q ↔ (q ∈ t.own ∧ E.val q = t.vmax E.val) := by
  intro t ht hl p hp hpk q
  have _ := hnd
  exact ⟨leaf_plateau_closed E hsym order hsorted t ht hl p hp hpk q,
    fun h => leaf_peak_one_plateau E hsym order hsorted hno t ht hl p hp q h.1 hpk h.2⟩

/-- `regmax_has_leaf` with `leaf_peak_regmax` (`hnd` is not needed) -/
theorem regmax_iff_leaf_peak (p : Nat) : RegMax E order p ↔
    ∃ t ∈ Tree.preL (run E order), t.kids = [] ∧ p ∈ t.own ∧ E.val p = t.vmax E.val :=
  have _ := hnd
  ⟨regmax_has_leaf E hsym order hsorted hno p,
   fun ⟨t, ht, hl, hp, hv⟩ => leaf_peak_regmax E hsym order hsorted t ht hl p hp hv⟩

/-- `leaves_distinct_maxima` for leaves with distinct identifiers (`hno` is not needed) -/
theorem leaves_distinct_maxima_id : ∀ t ∈ Tree.preL (run E order), ∀ t' ∈ Tree.preL (run E order),
    t.kids = [] → t'.kids = [] → t.id ≠ t'.id → ∀ p ∈ t.own, ∀ q ∈ t'.own,
    E.val p = t.vmax E.val → E.val q = t'.vmax E.val → ¬ SamePlateau E order p q := by
  intro t ht t' ht' hl _ hne p hp q hq hpk _
  have _ := hno
  exact leaves_distinct_maxima E hsym order hsorted hnd t ht t' ht' hl (fun e => hne (e ▸ rfl)) p hp q hq hpk

end Main

end P20
