import ADProofs.PruneProofs
import ADProofs.IndexProofs
/-!
# ADProofs.PruneAncestors — pruning: ancestor chains and own pixels (property C07)

`ancestors f i` lists the identifiers of the proper ancestors of the structure `i`, nearest first.
It is a lookup in the *table* of the forest (`tabL`: all pairs of identifier and chain, in prefix
order); with distinct identifiers that gives the two equations which determine it
(`ancestors_root`, `ancestors_kid`), and facts about all chains of a forest go by induction from
the roots down (`preL_topdown`).

Nothing here depends on which structures pruning removes.  After one dissolve the chains are the
chains before it without the dissolved identifier (`Absorbed.anc_filter`), and the *home* of every
original structure — its nearest surviving ancestor-or-self, the structure that holds its own
pixels — moves from the dissolved structure to its parent and otherwise stays
(`Absorbed.home_map`).
-/
open Tree Prune

namespace P21

mutual
/-- `acc`: the proper ancestors of the tree searched, nearest first -/
def ancT (i : Nat) (acc : List Nat) : Tree → Option (List Nat)
  | .node j _ ks => if j = i then some acc else ancL i (j :: acc) ks
def ancL (i : Nat) (acc : List Nat) : List Tree → Option (List Nat)
  | [] => none
  | t :: ts => (ancT i acc t).orElse fun _ => ancL i acc ts
end
def ancestors (f : List Tree) (i : Nat) : List Nat := (ancL i [] f).getD []

mutual
def tabT (acc : List Nat) : Tree → List (Nat × List Nat)
  | .node j _ ks => (j, acc) :: tabL (j :: acc) ks
def tabL (acc : List Nat) : List Tree → List (Nat × List Nat)
  | [] => []
  | t :: ts => tabT acc t ++ tabL acc ts
end

theorem anc_eq_find (i : Nat) :
    (∀ t : Tree, ∀ acc, ancT i acc t = ((tabT acc t).find? (fun e => e.1 == i)).map (·.2)) ∧
    (∀ l : List Tree, ∀ acc, ancL i acc l = ((tabL acc l).find? (fun e => e.1 == i)).map (·.2)) := by
  apply Tree.forest_induction
  · intro j o ks ih acc
    rw [ancT, tabT, List.find?_cons]
    by_cases h : j = i
    · simp [h]
    · have hb : (j == i) = false := by simpa using h
      simp [h, hb, ih]
  · intro acc; simp [ancL, tabL]
  · intro t ts iht ihts acc
    rw [ancL, tabL, List.find?_append, iht, ihts]
    cases ((tabT acc t).find? (fun e => e.1 == i)) <;> simp

theorem tab_keys :
    (∀ t : Tree, ∀ acc, (tabT acc t).map (·.1) = (pre t).map Tree.id) ∧
    (∀ l : List Tree, ∀ acc, (tabL acc l).map (·.1) = (preL l).map Tree.id) := by
  apply Tree.forest_induction
  · intro j o ks ih acc
    simp [tabT, pre, ih, Tree.id]
  · intro acc; simp [tabL, preL]
  · intro t ts iht ihts acc
    simp [tabL, preL, iht, ihts]

theorem tab_key_mem {f : List Tree} {acc : List Nat} {i : Nat} {r : List Nat}
    (h : (i, r) ∈ tabL acc f) : i ∈ (preL f).map Tree.id := by
  rw [← (tab_keys).2 f acc]; exact List.mem_map.mpr ⟨_, h, rfl⟩

theorem ancestors_eq {f : List Tree} (h : IdsNodup f) {i : Nat} {r : List Nat}
    (hm : (i, r) ∈ tabL [] f) : ancestors f i = r := by
  have hnd : ((tabL [] f).map (·.1)).Nodup := by rw [(tab_keys).2 f []]; exact h
  unfold ancestors
  rw [(anc_eq_find i).2 f [], (List.find?_key_eq_some_iff hnd i r).mpr hm]; rfl

theorem tabL_append (acc : List Nat) (a b : List Tree) :
    tabL acc (a ++ b) = tabL acc a ++ tabL acc b := by
  induction a with
  | nil => simp [tabL]
  | cons t ts ih => simp [tabL, ih]

theorem tabT_eq (acc : List Nat) (t : Tree) : tabT acc t = (t.id, acc) :: tabL (t.id :: acc) t.kids := by
  cases t; simp [tabT, Tree.id, Tree.kids]

theorem tabL_cons (acc : List Nat) (t : Tree) (ts : List Tree) :
    tabL acc (t :: ts) = tabT acc t ++ tabL acc ts := by simp [tabL]

theorem tab_root {l : List Tree} {t : Tree} (ht : t ∈ l) (acc : List Nat) : (t.id, acc) ∈ tabL acc l := by
  obtain ⟨a, b, rfl⟩ := List.append_of_mem ht
  simp [tabL_append, tabL_cons, tabT_eq]

theorem tab_kid :
    (∀ t : Tree, ∀ acc (P c : Tree), P ∈ pre t → c ∈ P.kids →
        ∃ r, (P.id, r) ∈ tabT acc t ∧ (c.id, P.id :: r) ∈ tabT acc t) ∧
    (∀ l : List Tree, ∀ acc (P c : Tree), P ∈ preL l → c ∈ P.kids →
        ∃ r, (P.id, r) ∈ tabL acc l ∧ (c.id, P.id :: r) ∈ tabL acc l) := by
  apply Tree.forest_induction
  · intro j o ks ih acc P c hP hc
    simp only [tabT, List.mem_cons, Prod.mk.injEq]
    rcases mem_pre.mp hP with rfl | hP
    · exact ⟨acc, .inl ⟨rfl, rfl⟩, .inr (tab_root hc _)⟩
    · obtain ⟨r, h1, h2⟩ := ih (j :: acc) P c hP hc
      exact ⟨r, .inr h1, .inr h2⟩
  · intro acc P c hP; simp [preL] at hP
  · intro t ts iht ihts acc P c hP hc
    simp only [preL, List.mem_append] at hP
    simp only [tabL, List.mem_append]
    rcases hP with hP | hP
    · obtain ⟨r, h1, h2⟩ := iht acc P c hP hc
      exact ⟨r, .inl h1, .inl h2⟩
    · obtain ⟨r, h1, h2⟩ := ihts acc P c hP hc
      exact ⟨r, .inr h1, .inr h2⟩

theorem ancestors_root {f : List Tree} (hids : IdsNodup f) {t : Tree} (ht : t ∈ f) :
    ancestors f t.id = [] := ancestors_eq hids (tab_root ht [])

theorem ancestors_kid {f : List Tree} (hids : IdsNodup f) {P c : Tree} (hP : P ∈ preL f)
    (hc : c ∈ P.kids) : ancestors f c.id = P.id :: ancestors f P.id := by
  obtain ⟨r, h1, h2⟩ := (tab_kid).2 f [] P c hP hc
  rw [ancestors_eq hids h1, ancestors_eq hids h2]

theorem ancestors_sub {f : List Tree} (hids : IdsNodup f) :
    ∀ s ∈ preL f, ∀ a ∈ ancestors f s.id, a ∈ (preL f).map Tree.id := by
  refine preL_topdown (fun t ht => by simp [ancestors_root hids ht]) ?_
  intro P hP ih k hk a ha
  rw [ancestors_kid hids hP hk] at ha
  rcases List.mem_cons.mp ha with rfl | ha
  · exact List.mem_map_of_mem hP
  · exact ih a ha

theorem Absorbed.anc_filter {g g' : List Tree} {P m P' : Tree}
    (h : Absorbed (preL g) (preL g') P m P') (hd : Dissolve g g') (hg : IdsNodup g)
    {S : Nat → Bool} (hS : ∀ s' ∈ preL g', S s'.id = true) (hm : S m.id = false) :
    ∀ s' ∈ preL g', ancestors g' s'.id = (ancestors g s'.id).filter S := by
  have hg' := hd.idsNodup hg
  have hP : S P.id = true := h.id ▸ hS P' h.mem
  have kid : ∀ {Q k : Tree} {i : Nat}, Q ∈ preL g → k ∈ Q.kids → k.id = i →
      ancestors g i = Q.id :: ancestors g Q.id := fun hQ hk e => e ▸ ancestors_kid hg hQ hk
  refine preL_topdown ?_ ?_
  · intro t' ht'
    have : t'.id ∈ g.map Tree.id := hd.roots_ids ▸ List.mem_map_of_mem ht'
    obtain ⟨t, ht, e⟩ := List.mem_map.mp this
    rw [ancestors_root hg' ht', ← e, ancestors_root hg ht]; rfl
  · intro Q' hQ' ih k' hk'
    rw [ancestors_kid hg' hQ' hk', ih]
    rcases h.rest Q' hQ' with rfl | ⟨Q, hQ, e, _, hkids⟩
    · obtain ⟨k, hk, ek, _⟩ := h.kids k' hk'
      rw [h.id]
      rcases hk with hk | hk
      · rw [kid h.parent hk ek, List.filter_cons_of_pos hP]
      · rw [kid (kid_mem_preL h.parent h.kid) hk ek, ancestors_kid hg h.parent h.kid,
          List.filter_cons_of_neg (by simp [hm]), List.filter_cons_of_pos hP]
    · obtain ⟨k, hk, ek, _⟩ := hkids k' hk'
      rw [kid hQ hk ek, e, List.filter_cons_of_pos (hS Q' hQ')]

/-- nearest surviving ancestor-or-self (`S` : survivors) -/
def home (S : Nat → Bool) (f : List Tree) (j : Nat) : Option Nat := (j :: ancestors f j).find? S

theorem home_self {S : Nat → Bool} {f : List Tree} {j : Nat} (h : S j = true) :
    home S f j = some j := by
  unfold home; rw [List.find?_cons, h]

theorem home_of_not {S : Nat → Bool} {f : List Tree} {j : Nat} (h : S j = false) :
    home S f j = (ancestors f j).find? S := by
  unfold home; rw [List.find?_cons_of_neg (by simp [h])]

theorem home_kid {S : Nat → Bool} {f : List Tree} (hids : IdsNodup f) {P k : Tree} (hP : P ∈ preL f)
    (hk : k ∈ P.kids) (hS : S k.id = false) : home S f k.id = home S f P.id := by
  rw [home_of_not hS, ancestors_kid hids hP hk, home]

/-- the parent of a surviving structure is the home of its former parent -/
theorem head_ancestors {S : Nat → Bool} {f g : List Tree} (hids : IdsNodup f) {P k : Tree}
    (hP : P ∈ preL f) (hk : k ∈ P.kids) (h : ancestors g k.id = (ancestors f k.id).filter S) :
    (ancestors g k.id).head? = home S f P.id := by
  rw [h, List.head?_filter, ancestors_kid hids hP hk]; rfl

/-- `f`: the original forest; `S` and `S'`: the survivors before and after `m` is dissolved -/
theorem Absorbed.home_map {f g g' : List Tree} {P m P' : Tree}
    (h : Absorbed (preL g) (preL g') P m P') (hf : IdsNodup f) (hg : IdsNodup g) {S S' : Nat → Bool}
    (hS' : ∀ x, S' x = (S x && x != m.id)) (hm : S m.id = true) (hP : S' P.id = true)
    (hroot : ∀ t ∈ f, S' t.id = true)
    (hanc : ancestors g m.id = (ancestors f m.id).filter S) :
    ∀ r ∈ preL f, home S' f r.id = (home S f r.id).map fun x => if x = m.id then P.id else x := by
  have self : ∀ x, S' x = true →
      home S' f x = (home S f x).map fun x => if x = m.id then P.id else x := by
    intro x hx
    have := hS' x
    simp only [hx, Bool.true_eq, Bool.and_eq_true, bne_iff_ne] at this
    simp [home_self hx, home_self this.1, this.2]
  refine preL_topdown (fun t ht => self _ (hroot t ht)) ?_
  intro Q hQ ih k hk
  cases hk' : S' k.id with
  | true => exact self _ hk'
  | false =>
    rw [home_kid hf hQ hk hk', ih]
    cases hkS : S k.id with
    | false => rw [home_kid hf hQ hk hkS]
    | true =>
      -- `k` is `m`: the home of its former parent `Q` is its parent `P` in `g`
      have e : k.id = m.id := by simpa [hkS, hk'] using hS' k.id
      rw [e] at hk'
      have hPm : P.id ≠ m.id := fun e' => by simp [e', hk'] at hP
      rw [← head_ancestors hf hQ hk (e ▸ hanc), e, ancestors_kid hg h.parent h.kid, home_self hm]
      simp [hPm]

theorem filter_id_eq {L : List Tree} (hnd : (L.map Tree.id).Nodup) {s : Tree} (hs : s ∈ L) :
    L.filter (fun r => r.id == s.id) = [s] := by
  obtain ⟨a, b, rfl⟩ := List.append_of_mem hs
  have hne := List.ne_of_nodup_map_middle hnd
  rw [List.filter_append, List.filter_cons_of_pos (by simp),
    List.filter_eq_nil_iff.mpr fun r hr e => hne r (List.mem_append_right _ hr) (beq_iff_eq.mp e),
    List.filter_eq_nil_iff.mpr fun r hr e => hne r (List.mem_append_left _ hr) (beq_iff_eq.mp e)]
  rfl

abbrev surv (g : List Tree) : Nat → Bool := fun a => decide (a ∈ (preL g).map Tree.id)

theorem surv_mem {g : List Tree} {s : Tree} (h : s ∈ preL g) : surv g s.id = true :=
  decide_eq_true (List.mem_map_of_mem h)

theorem Absorbed.surv_eq {g g' : List Tree} {P m P' : Tree}
    (h : Absorbed (preL g) (preL g') P m P') (hg : IdsNodup g) (x : Nat) :
    surv g' x = (surv g x && x != m.id) := by
  have hm : m.id ∉ (preL g').map Tree.id := (List.nodup_cons.mp (h.ids.nodup_iff.mpr hg)).1
  have := h.ids.mem_iff (a := x)
  rw [List.mem_cons] at this
  rw [Bool.eq_iff_iff]
  simp only [decide_eq_true_eq, Bool.and_eq_true, bne_iff_ne, ← this]
  exact ⟨fun hx => ⟨.inr hx, fun e => hm (e ▸ hx)⟩, fun ⟨hx, hne⟩ => hx.resolve_left hne⟩

/-- every structure of `F` owns the own pixels of the structures of `f` whose `home` it is -/
def OwnT (S : Nat → Bool) (f F : List Tree) : Prop :=
  ∀ s' ∈ preL F, s'.own.Perm
    (((preL f).filter (fun r => home S f r.id == some s'.id)).flatMap Tree.own)

theorem ownT_refl {f : List Tree} (hids : IdsNodup f) : OwnT (surv f) f f := by
  intro s hs
  have : (preL f).filter (fun r => home (surv f) f r.id == some s.id) = [s] :=
    (List.filter_congr fun r hr => by rw [home_self (surv_mem hr)]; rfl).trans (filter_id_eq hids hs)
  rw [this, List.flatMap_singleton]

/-- which homes become `y` when the homes in `m` are redirected to `P` -/
theorem redirect_beq {m P : Nat} (h : Option Nat) {y : Nat} (hy : y ≠ m) :
    (h.map (fun x => if x = m then P else x) == some y) =
      (h == some y || (y == P && h == some m)) := by
  rw [Bool.eq_iff_iff]
  cases h with
  | none => simp
  | some x =>
    simp only [Option.map_some, beq_iff_eq, Option.some.injEq, Bool.or_eq_true, Bool.and_eq_true]
    split <;> omega

theorem Absorbed.ownT {f g g' : List Tree} {P m P' : Tree}
    (h : Absorbed (preL g) (preL g') P m P') (hg : IdsNodup g) (hg' : IdsNodup g')
    (hhome : ∀ r ∈ preL f, home (surv g') f r.id =
      (home (surv g) f r.id).map fun x => if x = m.id then P.id else x)
    (hown : OwnT (surv g) f g) : OwnT (surv g') f g' := by
  have hm : m.id ∉ (preL g').map Tree.id := (List.nodup_cons.mp (h.ids.nodup_iff.mpr hg)).1
  intro s' hs'
  have hsm : s'.id ≠ m.id := fun e => hm (e ▸ List.mem_map_of_mem hs')
  rw [List.filter_congr fun r hr => by rw [hhome r hr, redirect_beq _ hsm]]
  by_cases hid : s'.id = P.id
  · -- `s'` is `P'`: it collects what `P` and `m` collected
    obtain rfl := List.eq_of_nodup_map hg' hs' h.mem (hid.trans h.id.symm)
    simp only [hid, beq_self_eq_true, Bool.true_and]
    rw [h.own]
    refine ((hown P h.parent).append (hown m (kid_mem_preL h.parent h.kid))).trans ?_
    rw [← List.flatMap_append]
    refine ((List.filter_or_perm _ _ _ ?_).flatMap_right _).symm
    intro r _ ⟨h1, h2⟩
    exact hsm (hid.trans (Option.some.inj ((beq_iff_eq.mp h1).symm.trans (beq_iff_eq.mp h2))))
  · obtain ⟨s, hs, e, ho, _⟩ := (h.rest s' hs').resolve_left fun e => hid (e ▸ h.id)
    simp only [beq_false_of_ne hid, Bool.false_and, Bool.or_false]
    rw [ho, ← e]
    exact hown s hs

theorem dissolves_transfer {f g : List Tree} (h : Dissolves f g) (hf : IdsNodup f) :
    (∀ s' ∈ preL g, ancestors g s'.id = (ancestors f s'.id).filter (surv g)) ∧
    OwnT (surv g) f g := by
  induction h with
  | refl =>
    refine ⟨fun s' hs' => ?_, ownT_refl hf⟩
    exact (List.filter_eq_self.mpr fun a ha => by simpa using ancestors_sub hf s' hs' a ha).symm
  | @tail g g' hfg hd ih =>
    obtain ⟨hanc, hown⟩ := ih
    have hg := hfg.idsNodup hf
    have hg' := hd.idsNodup hg
    obtain ⟨P, m, P', hL⟩ := absorbed_of_dissolve hd
    have hS' := hL.surv_eq hg
    have hmg : m ∈ preL g := kid_mem_preL hL.parent hL.kid
    refine ⟨fun s' hs' => ?_, ?_⟩
    · obtain ⟨s, hs, e, _⟩ := (Dissolves.tail (.refl g) hd).regions s' hs'
      rw [hL.anc_filter hd hg (fun _ => surv_mem) (by simp [hS']) s' hs', ← e,
        hanc s hs, List.filter_filter]
      exact List.filter_congr fun a _ => by rw [hS' a]; cases surv g a <;> simp
    · refine hL.ownT hg hg' (hL.home_map hf hg hS' (surv_mem hmg) (hL.id ▸ surv_mem hL.mem) ?_
        (hanc m hmg)) hown
      intro t ht
      have : t.id ∈ g'.map Tree.id := (hfg.tail hd).roots_ids ▸ List.mem_map_of_mem ht
      obtain ⟨t', ht', e⟩ := List.mem_map.mp this
      exact e ▸ surv_mem (mem_preL_of_mem ht')

/-- pixels of dissolved structures pass to the nearest surviving former ancestor -/
theorem dissolves_own_transfer {f g : List Tree} (h : Dissolves f g) (hf : IdsNodup f) :
    ∀ s' ∈ preL g, ∃ s ∈ preL f, s.id = s'.id ∧
      s'.own.Perm (s.own ++ ((preL f).filter (fun r => r.id ∉ (preL g).map Tree.id ∧
        (ancestors f r.id).find? (fun a => a ∈ (preL g).map Tree.id) = some s.id)).flatMap
          Tree.own) := by
  intro s' hs'
  obtain ⟨s, hs, e, _⟩ := h.regions s' hs'
  refine ⟨s, hs, e, ((dissolves_transfer h hf).2 s' hs').trans ?_⟩
  -- a survivor is its own home, the home of a dissolved structure is found among its ancestors
  have hkey : ∀ r ∈ preL f, (home (surv g) f r.id == some s'.id) =
      ((r.id == s.id) || decide (r.id ∉ (preL g).map Tree.id ∧
        (ancestors f r.id).find? (surv g) = some s.id)) := by
    intro r _
    rw [← e]
    by_cases hr : r.id ∈ (preL g).map Tree.id
    · rw [home_self (decide_eq_true hr)]
      simp [hr]
    · have hne : r.id ≠ s.id := fun e2 => hr (e2 ▸ e ▸ List.mem_map_of_mem hs')
      rw [home_of_not (decide_eq_false hr), beq_false_of_ne hne, Bool.false_or,
        Bool.beq_eq_decide_eq]
      exact decide_eq_decide.mpr (and_iff_right hr).symm
  rw [List.filter_congr hkey]
  refine ((List.filter_or_perm _ _ _ ?_).flatMap_right _).trans ?_
  · intro r _ ⟨h1, h2⟩
    exact (of_decide_eq_true h2).1 (beq_iff_eq.mp h1 ▸ e ▸ List.mem_map_of_mem hs')
  · rw [List.flatMap_append, filter_id_eq hf hs, List.flatMap_singleton]

end P21

namespace P30

theorem prune_idsNodup (ic : Tree → Tree → Bool) (io : Tree → Bool) (f : List Tree)
    (h : IdsNodup f) : IdsNodup (prune ic io f) :=
  trunk_ids_nodup _ _ (pruneLoop_idsNodup ic _ f h)

theorem prune_wf (ic : Tree → Tree → Bool) (io : Tree → Bool) (f : List Tree) (n : Nat)
    (h : P8.WF f n) : P8.WF (prune ic io f) n := by
  have hp := (pruneLoop_dissolves ic (sizeL f) f h.1).pixels
  refine ⟨prune_idsNodup ic io f h.1, ?_, ?_⟩
  · exact trunk_pixels_nodup _ _ (hp.nodup_iff.mpr h.2.1)
  · intro p hp'
    exact h.2.2 p (hp.subset (trunk_pixels_subset _ _ p hp'))

theorem prune_arity (ic : Tree → Tree → Bool) (io : Tree → Bool) (f : List Tree)
    (hids : IdsNodup f) (ha : ∀ s ∈ Tree.preL f, PArity s) :
    ∀ s ∈ Tree.preL (prune ic io f), PArity s :=
  fun s hs => pruneLoop_arity ic _ f hids ha s (trunk_nodes_subset _ _ s hs)

theorem pruneLoop_own_nonempty (ic : Tree → Tree → Bool) (n : Nat) (f : List Tree)
    (hids : IdsNodup f) (ha : ∀ s ∈ Tree.preL f, s.own ≠ []) : ∀ s ∈ Tree.preL (pruneLoop ic n f), s.own ≠ [] := by
  intro s' hs' e
  obtain ⟨s, hs, _, p⟩ := P21.dissolves_own_transfer (pruneLoop_dissolves ic n f hids) hids s' hs'
  rw [e] at p
  exact ha s hs (List.append_eq_nil_iff.mp (List.nil_perm.mp p)).1

theorem prune_own_nonempty (ic : Tree → Tree → Bool) (io : Tree → Bool) (f : List Tree)
    (hids : IdsNodup f) (h : ∀ s ∈ Tree.preL f, s.own ≠ []) :
    ∀ s ∈ Tree.preL (prune ic io f), s.own ≠ [] :=
  fun s hs => pruneLoop_own_nonempty ic _ f hids h s (trunk_nodes_subset _ _ s hs)

end P30
