import ADProofs.Join
/-! The pixel loop as a whole: it assigns every processed pixel to exactly one structure (C01), and induction over
the processed prefix with the state `run E pre` explicit. -/
open Tree

theorem joinAdj_pixels (E : Env) (p : Nat) (adj : List Tree) :
    (joinAdj E p adj).pixels.Perm (p :: pixelsL adj) := by
  rcases joinAdj_cases E p adj with ⟨t, hperm, he⟩ | ⟨_, _, he⟩ <;> rw [he, pixels_node]
  · refine .trans ?_ ((pixelsL_perm hperm).cons p).symm
    rw [pixelsL, pixels_eq, List.append_assoc, List.append_assoc,
      pixelsL_leaves fun m hm => ((insig_iff E p m).mp (mergedOf_insig hm).2).1]
    exact List.perm_middle.trans (.cons p (.append_left _ List.perm_append_comm))
  · rw [List.cons_append]
    refine .cons p (.trans ?_ (pixelsL_perm (List.filter_append_perm (insig E p) adj)))
    rw [pixelsL_append,
      pixelsL_leaves fun m hm => ((insig_iff E p m).mp (List.mem_filter.mp hm).2).1]

theorem step_pixels (E : Env) (roots : List Tree) (p : Nat) :
    (pixelsL (step E roots p)).Perm (p :: pixelsL roots) := by
  have hJ := (joinAdj_pixels E p (sortById (roots.filter (touches E p)))).trans
    ((pixelsL_perm (sortById_perm _)).cons p)
  have hr := pixelsL_perm (roots_perm E roots p)
  rw [pixelsL_append] at hr
  rw [step, pixelsL_append, pixelsL, pixelsL, List.append_nil]
  exact (hJ.append_left _).trans (List.perm_middle.trans (hr.symm.cons p))

theorem run_snoc (E : Env) (pre : List Nat) (p : Nat) : run E (pre ++ [p]) = step E (run E pre) p := by
  simp [run]

/-- C01: after the whole loop the pixels of all structures are exactly the processed pixels, each once -/
theorem run_pixels (E : Env) (order : List Nat) : (pixelsL (run E order)).Perm order.reverse := by
  induction order using List.snoc_induction with
  | nil => exact .refl _
  | snoc l a ih =>
    rw [run_snoc, List.reverse_append]
    exact (step_pixels E _ a).trans (ih.cons a)

theorem mem_run_pixels (E : Env) (order : List Nat) (x : Nat) :
    x ∈ pixelsL (run E order) ↔ x ∈ order := by
  rw [(run_pixels E order).mem_iff, List.mem_reverse]

theorem run_pixels_nodup (E : Env) (order : List Nat) (hnd : order.Nodup) :
    (pixelsL (run E order)).Nodup :=
  ((run_pixels E order).trans (List.reverse_perm order)).nodup_iff.mpr hnd

theorem pixels_mem_order {E : Env} {order : List Nat} {t : Tree} (ht : t ∈ run E order) {x : Nat}
    (hx : x ∈ t.pixels) : x ∈ order :=
  (mem_run_pixels E order x).mp (mem_pixelsL.mpr ⟨t, ht, hx⟩)

theorem own_mem_order {E : Env} {order : List Nat} {t : Tree} (ht : t ∈ preL (run E order)) {x : Nat}
    (hx : x ∈ t.own) : x ∈ order :=
  (mem_run_pixels E order x).mp (mem_pixelsL_iff.mpr ⟨t, ht, hx⟩)

/-- The state at the prefix `pre` is `run E pre` itself, so whatever is already known about runs is at hand in the step;
`order = pre ++ p :: suf` yields what `order.Nodup` and sortedness say about `p` (`fresh_at`, `sorted_at`). -/
theorem run_prefix_induction (E : Env) (order : List Nat) (P : List Nat → List Tree → Prop)
    (h0 : P [] [])
    (hstep : ∀ pre p suf, order = pre ++ p :: suf → P pre (run E pre) →
      P (pre ++ [p]) (step E (run E pre) p)) : P order (run E order) := by
  suffices h : ∀ suf pre, order = pre ++ suf → P pre (run E pre) → P order (run E order) from
    h order [] rfl h0
  intro suf
  induction suf with
  | nil => intro pre ho h; rwa [ho, List.append_nil]
  | cons p suf ih =>
    intro pre ho h
    exact ih (pre ++ [p]) (by simpa using ho) (run_snoc E pre p ▸ hstep pre p suf ho h)

theorem run_induction (E : Env) (P : List Tree → Prop) (h0 : P [])
    (hstep : ∀ roots p, P roots → P (step E roots p)) (order : List Nat) : P (run E order) :=
  run_prefix_induction E order (fun _ => P) h0 fun _ p _ _ ih => hstep _ p ih

theorem sorted_at {R : Nat → Nat → Prop} {order pre suf : List Nat} {p : Nat}
    (ho : order = pre ++ p :: suf) (h : order.Pairwise R) : ∀ x ∈ pre, R x p :=
  fun x hx => (List.pairwise_append.mp (ho ▸ h)).2.2 x hx p (by simp)

theorem fresh_at {order pre suf : List Nat} {p : Nat} (ho : order = pre ++ p :: suf)
    (h : order.Nodup) : p ∉ pre :=
  fun hp => sorted_at ho h p hp rfl

