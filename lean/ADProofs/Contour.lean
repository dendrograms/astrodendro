import ADProofs.Conn
import ADProofs.Forest
/-!
# Contour semantics of the pixel loop (C03 for every structure, C05)

Everything about a structure that has a parent is read off one fact, `run_child_hist`.  So what `Conn` proves about
parentless structures (connected, `run_closed`) holds of every structure at the time it was frozen: this gives the
contour statement `C03_contour`, and the meeting pixel and the significance test of C05.
-/
open Tree
open P10 (ownL)

namespace ContourP

/-- `C03_all_connected` -/
theorem run_all_connected (E : Env) (hsym : ∀ x y, y ∈ E.nbrs x → x ∈ E.nbrs y) (order : List Nat) :
    ∀ t ∈ Tree.preL (run E order), PixConn E t :=
  run_induction E (fun roots => ∀ t ∈ preL roots, PixConn E t) (fun _ ht => nomatch ht)
    (fun roots p h t ht => by
      rcases mem_preL_step E roots p t ht with ht | rfl
      · exact h t ht
      · exact joinAdj_conn E hsym p _ (fun u hu => h u (mem_preL_of_mem (mem_adjacent.mp hu).1))
          fun u hu => (mem_adjacent.mp hu).2) order

/-- The region of a parentless structure is the connected component, in the processed set, of each
of its pixels: a root is connected, and no pixel of it is adjacent to another root. -/
theorem root_eq_component (E : Env) (hsym : ∀ x y, y ∈ E.nbrs x → x ∈ E.nbrs y) (order : List Nat)
    {t : Tree} (ht : t ∈ run E order) {p : Nat} (hp : p ∈ t.pixels) (q : Nat) :
    q ∈ t.pixels ↔ Conn E.nbrs (fun x => x ∈ order) p q := by
  constructor
  · intro hq
    exact (run_all_connected E hsym order t (mem_preL_of_mem ht) p q hp hq).mono
      fun x hx => pixels_mem_order ht hx
  · intro hc
    induction hc with
    | refl => exact hp
    | @tail b c _ hn hs ih =>
      obtain ⟨t', ht', hct'⟩ := mem_pixelsL.mp ((mem_run_pixels E order c).mpr hs)
      by_cases e : t = t'
      · rw [e]; exact hct'
      · exact absurd hn (run_closed E hsym order t ht t' ht' e b ih c hct')

/-- **Children are frozen roots.**  Every child `L` of every structure `P` was a parentless
structure just before the creating pixel `P.id` of its parent was processed, adjacent to that
pixel and significant there; it has not changed since. -/
theorem run_child_hist (E : Env) (order : List Nat) :
    ∀ P ∈ preL (run E order), ∀ L ∈ P.kids, ∃ pre suf, order = pre ++ P.id :: suf ∧
      L ∈ run E pre ∧ touches E P.id L = true ∧ insig E P.id L = false :=
  run_prefix_induction E order
    (fun pre roots => ∀ P ∈ preL roots, ∀ L ∈ P.kids, ∃ pre' suf, pre = pre' ++ P.id :: suf ∧
      L ∈ run E pre' ∧ touches E P.id L = true ∧ insig E P.id L = false)
    (fun _ hP => nomatch hP)
    fun pre p _ _ ih P hP L hL => by
      have hold : ∀ P ∈ preL (run E pre), ∀ L ∈ P.kids, ∃ pre' suf,
          pre ++ [p] = pre' ++ P.id :: suf ∧ L ∈ run E pre' ∧ touches E P.id L = true ∧
          insig E P.id L = false := fun P hP L hL =>
        let ⟨pre', suf, e, h⟩ := ih P hP L hL
        ⟨pre', suf ++ [p], by rw [e]; simp, h⟩
      rcases node_step hP with hP | ⟨t, _, hperm, _⟩ | ⟨_, keep, hperm, _, hk, _⟩
      · exact hold P hP L hL
      · exact hold t (Recv.grow_root_mem hperm) L hL
      · have := mem_adj_of_perm hperm (List.mem_append_right _ hL)
        exact ⟨pre, [], rfl, this.1, this.2, hk L hL⟩

theorem run_leaf_kid_significant (E : Env) (order : List Nat) :
    ∀ P ∈ preL (run E order), ∀ L ∈ P.kids, L.kids = [] →
      L.vmax E.val ≠ E.val P.id ∧ E.indep L P.id (E.val P.id) = true := by
  intro P hP L hL hleaf
  obtain ⟨_, _, _, _, _, h⟩ := run_child_hist E order P hP L hL
  simp only [insig, isLeaf, hleaf, List.isEmpty_nil, Bool.true_and, Bool.or_eq_false_iff,
    beq_eq_false_iff_ne, Bool.not_eq_false'] at h
  exact h

/-- `C05_meeting_pixel`; `P.id`, the identifier of a branch, is its creating pixel. -/
theorem run_meeting_pixel (E : Env) (order : List Nat) (hnd : order.Nodup)
    (hsorted : order.Pairwise (fun a b => E.val b ≤ E.val a)) :
    ∀ P ∈ Tree.preL (run E order), ∀ L ∈ P.kids,
      (∃ a ∈ L.pixels, a ∈ E.nbrs P.id) ∧ P.id ∉ L.pixels ∧ P.id ∈ order ∧
      (∀ x ∈ L.pixels, E.val P.id ≤ E.val x) := by
  intro P hP L hL
  obtain ⟨pre, suf, ho, hLr, ht, _⟩ := run_child_hist E order P hP L hL
  exact ⟨(touches_iff E P.id L).mp ht, fun h => fresh_at ho hnd (pixels_mem_order hLr h), by simp [ho],
    fun x hx => sorted_at ho hsorted x (pixels_mem_order hLr hx)⟩

/-- One step of `C03_branch_own_le_sub`.  `pre` are the pixels processed so far: they are the pixels of `roots`
(`hpix`) and none is darker than `p` (`hle`, from the sorted order), so everything below the receiving structure,
being old, is at least as bright as `p` and as the absorbed plateaus at the level of `p`. -/
theorem step_own_le_sub (E : Env) (hnoprune : ∀ t p v, E.indep t p v = true)
    (roots : List Tree) (p : Nat) (pre : List Nat)
    (hpix : ∀ x, x ∈ pixelsL roots ↔ x ∈ pre)
    (hle : ∀ x ∈ pre, E.val p ≤ E.val x)
    (h : ∀ t ∈ preL roots, ∀ a ∈ t.own, ∀ b ∈ pixelsL t.kids, E.val a ≤ E.val b) :
    ∀ t ∈ preL (step E roots p), ∀ a ∈ t.own, ∀ b ∈ pixelsL t.kids, E.val a ≤ E.val b := by
  -- own pixels of an absorbed root are at the level of `p`
  have habs : ∀ m, insig E p m = true → ∀ a ∈ m.own, E.val a ≤ E.val p := fun m hm a ha =>
    ((insig_iff_of_noprune hnoprune p m).mp hm).2 ▸ le_vmax E.val m a ha
  intro P hP a ha b hb
  rcases node_step hP with hP | hJ
  · exact h P hP a ha b hb
  -- the substructures of the receiving structure are old, so `b` has been processed
  have hbpre : b ∈ pre :=
    have ⟨s, hs, hbs⟩ := mem_pixelsL_iff.mp hb
    (hpix b).mp (mem_pixelsL_iff.mpr ⟨s, hJ.kids_old s hs, hbs⟩)
  cases hJ with
  | grow t abs hperm hi =>
    rcases Recv.mem_own_grow.mp ha with h1 | rfl | ⟨m, hm, hx⟩
    · exact h t (Recv.grow_root_mem hperm) a h1 b hb
    · exact hle b hbpre
    · exact Int.le_trans (habs m (hi m hm) a hx) (hle b hbpre)
  | new abs keep hperm hi =>
    rcases Recv.mem_own_new.mp ha with rfl | ⟨m, hm, hx⟩
    · exact hle b hbpre
    · exact Int.le_trans (habs m (hi m hm) a hx) (hle b hbpre)

end ContourP
