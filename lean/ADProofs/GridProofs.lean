import ADModel.Grid
import ADProofs.ListLemmas

/-!
# ADProofs.GridProofs — what the grid adjacency `Grid.nbrs` is, level by level

Flat indices: `ravel` and `unravel` are mutually inverse on the grid, so `nbrs` is `nbrsC` on the
coordinates (`nbrs_iff`).  Coordinates: a neighbour differs along exactly one axis, by a neighbour
on that axis (`nbrsC_mem`, `nbrsC_mem_pointwise`).  One axis: every fact about `Grid.axisNbrs` goes
through the successor relation `Next` (`axisNbrs_iff`: two cells are neighbours iff one follows the
other); a cyclic shift of a periodic axis preserves `Next`, a flip reverses it, padding a
non-periodic axis preserves it.
-/

def InRange (shape c : List Nat) : Prop :=
  c.length = shape.length ∧ ∀ i, i < shape.length → c.getD i 0 < shape.getD i 0

namespace GridProofs

theorem foldl_mul (l : List Nat) (a : Nat) :
    l.foldl (· * ·) a = a * l.foldl (· * ·) 1 := by
  induction l generalizing a with
  | nil => simp
  | cons x xs ih =>
    simp only [List.foldl_cons]
    rw [ih (a * x), ih (1 * x), Nat.one_mul, Nat.mul_assoc]

theorem size_nil : Grid.size [] = 1 := rfl

theorem size_cons (n : Nat) (rest : List Nat) :
    Grid.size (n :: rest) = n * Grid.size rest := by
  unfold Grid.size
  simp only [List.foldl_cons]
  rw [foldl_mul, Nat.one_mul]

theorem unravel_cons (n : Nat) (rest : List Nat) (p : Nat) :
    Grid.unravel (n :: rest) p
      = (p / Grid.size rest) :: Grid.unravel rest (p % Grid.size rest) := rfl

theorem ravel_cons (n : Nat) (rest : List Nat) (x : Nat) (cs : List Nat) :
    Grid.ravel (n :: rest) (x :: cs) = x * Grid.size rest + Grid.ravel rest cs := rfl

theorem inRange_nil_left {c : List Nat} : InRange [] c ↔ c = [] := by
  unfold InRange
  constructor
  · rintro ⟨h, -⟩
    exact List.eq_nil_of_length_eq_zero h
  · rintro rfl
    exact ⟨rfl, fun i hi => absurd hi (Nat.not_lt_zero _)⟩

theorem inRange_cons {n x : Nat} {s c : List Nat} :
    InRange (n :: s) (x :: c) ↔ x < n ∧ InRange s c := by
  unfold InRange
  simp only [List.length_cons, Nat.add_right_cancel_iff, Nat.forall_lt_succ_left,
    List.getD_cons_zero, List.getD_cons_succ]
  exact ⟨fun ⟨a, b, c⟩ => ⟨b, a, c⟩, fun ⟨a, b, c⟩ => ⟨b, a, c⟩⟩

theorem not_inRange_cons_nil {n : Nat} {s : List Nat} : ¬ InRange (n :: s) [] := by
  rintro ⟨h, -⟩
  simp at h

theorem InRange.length_eq {shape c : List Nat} (h : InRange shape c) :
    c.length = shape.length := h.1

theorem unravel_inRange (shape : List Nat) (p : Nat) (hp : p < Grid.size shape) :
    InRange shape (Grid.unravel shape p) := by
  induction shape generalizing p with
  | nil => exact inRange_nil_left.mpr rfl
  | cons n rest ih =>
    rw [size_cons] at hp
    rw [unravel_cons, inRange_cons]
    have hS : 0 < Grid.size rest := Nat.pos_of_lt_mul_left hp
    refine ⟨?_, ih _ (Nat.mod_lt _ hS)⟩
    rw [Nat.div_lt_iff_lt_mul hS]
    exact hp

theorem ravel_unravel (shape : List Nat) (p : Nat) (hp : p < Grid.size shape) :
    Grid.ravel shape (Grid.unravel shape p) = p := by
  induction shape generalizing p with
  | nil => exact (Nat.lt_one_iff.mp hp).symm
  | cons n rest ih =>
    rw [size_cons] at hp
    have hS : 0 < Grid.size rest := Nat.pos_of_lt_mul_left hp
    rw [unravel_cons, ravel_cons, ih _ (Nat.mod_lt _ hS)]
    exact Nat.div_add_mod' p (Grid.size rest)

theorem ravel_lt (shape c : List Nat) (h : InRange shape c) :
    Grid.ravel shape c < Grid.size shape := by
  induction shape generalizing c with
  | nil =>
    rw [inRange_nil_left.mp h, size_nil]
    exact Nat.zero_lt_one
  | cons n rest ih =>
    cases c with
    | nil => exact absurd h not_inRange_cons_nil
    | cons x cs =>
      obtain ⟨hx, hcs⟩ := inRange_cons.mp h
      rw [ravel_cons, size_cons]
      exact Nat.lt_of_lt_of_le (Nat.add_lt_add_left (ih cs hcs) _)
        (Nat.succ_mul x _ ▸ Nat.mul_le_mul_right _ hx)

theorem unravel_ravel (shape c : List Nat) (h : InRange shape c) :
    Grid.unravel shape (Grid.ravel shape c) = c := by
  induction shape generalizing c with
  | nil => rw [inRange_nil_left.mp h]; rfl
  | cons n rest ih =>
    cases c with
    | nil => exact absurd h not_inRange_cons_nil
    | cons x cs =>
      obtain ⟨hx, hcs⟩ := inRange_cons.mp h
      have hr := ravel_lt rest cs hcs
      have hS : 0 < Grid.size rest := Nat.zero_lt_of_lt hr
      rw [ravel_cons, unravel_cons]
      have hdiv : (x * Grid.size rest + Grid.ravel rest cs) / Grid.size rest = x := by
        rw [Nat.mul_comm, Nat.mul_add_div hS, Nat.div_eq_of_lt hr, Nat.add_zero]
      have hmod : (x * Grid.size rest + Grid.ravel rest cs) % Grid.size rest
          = Grid.ravel rest cs := by
        rw [Nat.mul_comm, Nat.mul_add_mod, Nat.mod_eq_of_lt hr]
      rw [hdiv, hmod, ih cs hcs]

def Next (n : Nat) (per : Bool) (c d : Nat) : Prop :=
  (c + 1 < n ∧ d = c + 1) ∨ (per = true ∧ c + 1 = n ∧ d = 0)

theorem Next.lt {n per c d} (h : Next n per c d) : c < n ∧ d < n := by
  unfold Next at h; omega

theorem axisNbrs_iff {n c d : Nat} {per : Bool} (hc : c < n) :
    d ∈ Grid.axisNbrs n per c ↔ Next n per c d ∨ Next n per d c := by
  unfold Grid.axisNbrs Next
  rw [List.mem_append]
  refine or_congr ?_ ?_
  · by_cases h : c + 1 < n
    · simp [h, Nat.ne_of_lt h]
    · have e : c + 1 = n := Nat.le_antisymm hc (Nat.le_of_not_lt h)
      cases per <;> simp [e]
  · match c, n, hc with
    | 0, n + 1, _ => cases per <;> simp [eq_comm]
    | c + 1, n, hc => simpa [eq_comm] using fun (h : d = c) => h ▸ hc

/-- `axisNbrs_iff` with the four cases and the bound spelt out (C17) -/
theorem axisNbrs_mem (n : Nat) (per : Bool) (c d : Nat) (hc : c < n) :
    d ∈ Grid.axisNbrs n per c ↔
      d < n ∧ ((d = c + 1) ∨ (c = d + 1) ∨ (per = true ∧ c + 1 = n ∧ d = 0)
        ∨ (per = true ∧ c = 0 ∧ d + 1 = n)) := by
  rw [axisNbrs_iff hc]
  constructor
  · intro h
    refine ⟨h.elim (·.lt.2) (·.lt.1), ?_⟩
    rcases h with (⟨-, h⟩ | h) | (⟨-, h⟩ | h) <;> simp [h]
  · rintro ⟨hd, rfl | rfl | h | h⟩ <;> simp [Next, *]

theorem axisNbrs_symm (n : Nat) (per : Bool) (c d : Nat) (hc : c < n)
    (hd : d ∈ Grid.axisNbrs n per c) : d < n ∧ c ∈ Grid.axisNbrs n per d := by
  rw [axisNbrs_iff hc] at hd
  have hdn : d < n := hd.elim (·.lt.2) (·.lt.1)
  exact ⟨hdn, (axisNbrs_iff hdn).mpr hd.symm⟩

theorem next_true {n x y : Nat} (hx : x < n) : Next n true x y ↔ y = (x + 1) % n := by
  unfold Next
  rcases Nat.lt_or_eq_of_le (show x + 1 ≤ n from hx) with h | rfl
  · simp [h, Nat.mod_eq_of_lt h, Nat.ne_of_lt h]
  · simp

theorem shift_inj {n k x y : Nat} (hx : x < n) (hy : y < n) (h : (x + k) % n = (y + k) % n) :
    x = y := by
  have le : ∀ {x y}, x < n → (x + k) % n = (y + k) % n → x ≤ y := fun hx h => by
    have h := Nat.sub_mod_eq_zero_of_mod_eq h
    rwa [Nat.add_sub_add_right, Nat.mod_eq_of_lt (Nat.sub_lt_of_lt hx), Nat.sub_eq_zero_iff_le] at h
  exact Nat.le_antisymm (le hx h) (le hy h.symm)

/-- on a periodic axis `Next` is `y = (x + 1) % n`, and adding `k` modulo `n` commutes with that -/
theorem next_shift {n x y : Nat} (k : Nat) (hx : x < n) (hy : y < n) :
    Next n true x y ↔ Next n true ((x + k) % n) ((y + k) % n) := by
  have hn : 0 < n := Nat.zero_lt_of_lt hx
  have e : ((x + k) % n + 1) % n = ((x + 1) % n + k) % n := by
    rw [Nat.mod_add_mod, Nat.mod_add_mod, Nat.add_right_comm]
  rw [next_true hx, next_true (Nat.mod_lt _ hn), e]
  exact ⟨fun h => h ▸ rfl, shift_inj hy (Nat.mod_lt _ hn)⟩

theorem axis_shift (n k x y : Nat) (hx : x < n) (hy : y < n) :
    y ∈ Grid.axisNbrs n true x ↔ (y + k) % n ∈ Grid.axisNbrs n true ((x + k) % n) := by
  rw [axisNbrs_iff hx, axisNbrs_iff (Nat.mod_lt _ (Nat.zero_lt_of_lt hx)), next_shift k hx hy,
    next_shift k hy hx]

theorem next_flip {n x y : Nat} (per : Bool) (hx : x < n) (hy : y < n) :
    Next n per x y ↔ Next n per (n - 1 - y) (n - 1 - x) :=
  -- branch by branch: `omega` can do nothing with the atom `per = true`
  or_congr (by omega) (and_congr_right fun _ => by omega)

theorem axis_flip (n : Nat) (per : Bool) (x y : Nat) (hx : x < n) (hy : y < n) :
    y ∈ Grid.axisNbrs n per x ↔ n - 1 - y ∈ Grid.axisNbrs n per (n - 1 - x) := by
  rw [axisNbrs_iff hx, axisNbrs_iff (Nat.sub_one_sub_lt hx), next_flip per hx hy, next_flip per hy hx,
    or_comm]

theorem next_pad {n x y : Nat} (l h : Nat) (hx : x < n) (hy : y < n) :
    Next n false x y ↔ Next (n + l + h) false (x + l) (y + l) :=
  or_congr (by omega) (and_congr_right fun h => nomatch h)

theorem axis_pad (n l h x y : Nat) (hx : x < n) (hy : y < n) :
    y ∈ Grid.axisNbrs n false x ↔ y + l ∈ Grid.axisNbrs (n + l + h) false (x + l) := by
  rw [axisNbrs_iff hx, axisNbrs_iff (Nat.lt_add_right h (Nat.add_lt_add_right hx l)),
    next_pad l h hx hy, next_pad l h hy hx]

theorem nbrsC_mem_raw (shape periodic c d : List Nat) :
    d ∈ Grid.nbrsC shape periodic c ↔
      ∃ a, a < shape.length ∧ ∃ v,
        v ∈ Grid.axisNbrs (shape.getD a 0) (periodic.contains a) (c.getD a 0) ∧ c.set a v = d := by
  unfold Grid.nbrsC Grid.setAt
  simp only [List.mem_flatMap, List.mem_range, List.mem_map]

theorem inRange_set {shape c : List Nat} {a v : Nat} (hc : InRange shape c)
    (hv : v < shape.getD a 0) : InRange shape (c.set a v) := by
  refine ⟨by rw [List.length_set]; exact hc.1, ?_⟩
  intro i hi
  by_cases h : a = i
  · subst h
    rw [List.getD_set_self c a v (hc.1 ▸ hi)]
    exact hv
  · rw [List.getD_set_ne c a i v h]
    exact hc.2 i hi

theorem nbrsC_symm (shape periodic c d : List Nat) (hc : InRange shape c)
    (hd : d ∈ Grid.nbrsC shape periodic c) :
    InRange shape d ∧ c ∈ Grid.nbrsC shape periodic d := by
  rw [nbrsC_mem_raw] at hd
  obtain ⟨a, ha, v, hv, rfl⟩ := hd
  have hac : a < c.length := hc.1 ▸ ha
  obtain ⟨hvn, hsym⟩ := axisNbrs_symm _ _ _ _ (hc.2 a ha) hv
  refine ⟨inRange_set hc hvn, ?_⟩
  rw [nbrsC_mem_raw]
  refine ⟨a, ha, c.getD a 0, ?_, ?_⟩
  · rw [List.getD_set_self c a v hac]
    exact hsym
  · rw [List.set_set, List.set_getD_self]

theorem nbrsC_mem (shape periodic c d : List Nat) (hc : InRange shape c) :
    d ∈ Grid.nbrsC shape periodic c ↔
      ∃ a, a < shape.length ∧ d = c.set a (d.getD a 0) ∧
        d.getD a 0 ∈ Grid.axisNbrs (shape.getD a 0) (periodic.contains a) (c.getD a 0) := by
  rw [nbrsC_mem_raw]
  constructor
  · rintro ⟨a, ha, v, hv, rfl⟩
    have hac : a < c.length := hc.1 ▸ ha
    refine ⟨a, ha, ?_, ?_⟩
    · rw [List.getD_set_self c a v hac]
    · rw [List.getD_set_self c a v hac]; exact hv
  · rintro ⟨a, ha, hd, hv⟩
    exact ⟨a, ha, d.getD a 0, hv, hd.symm⟩

theorem nbrsC_mem_pointwise (shape periodic c d : List Nat) (hc : InRange shape c)
    (hd : InRange shape d) :
    d ∈ Grid.nbrsC shape periodic c ↔
      ∃ b, b < shape.length ∧ (∀ i, i < shape.length → i ≠ b → d.getD i 0 = c.getD i 0) ∧
        d.getD b 0 ∈ Grid.axisNbrs (shape.getD b 0) (periodic.contains b) (c.getD b 0) := by
  rw [nbrsC_mem shape periodic c d hc]
  refine exists_congr fun b => and_congr_right fun hb => and_congr_left' ?_
  constructor
  · intro h i _ hi
    rw [h, List.getD_set_ne c b i _ (Ne.symm hi)]
  · intro h
    refine List.ext_getD 0 (by rw [List.length_set, hd.1, hc.1]) fun i hi => ?_
    by_cases hib : b = i
    · subst hib
      rw [List.getD_set_self c b _ (hc.1 ▸ hb)]
    · rw [List.getD_set_ne c b i _ hib]
      exact h i (hd.1 ▸ hi) (Ne.symm hib)

theorem nbrs_iff {shape periodic : List Nat} {p q : Nat} (hp : p < Grid.size shape) :
    q ∈ Grid.nbrs shape periodic p ↔ q < Grid.size shape ∧
      Grid.unravel shape q ∈ Grid.nbrsC shape periodic (Grid.unravel shape p) := by
  unfold Grid.nbrs
  rw [List.mem_map]
  constructor
  · rintro ⟨d, hd, rfl⟩
    have hdr := (nbrsC_symm shape periodic _ d (unravel_inRange shape p hp) hd).1
    rw [unravel_ravel shape d hdr]
    exact ⟨ravel_lt shape d hdr, hd⟩
  · rintro ⟨hq, h⟩
    exact ⟨_, h, ravel_unravel shape q hq⟩

end GridProofs
