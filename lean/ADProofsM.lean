import ADProofsM.MomentProofs
import ADProofsM.FluxProofs
import ADProofsM.PPVProofs
import ADProofsM.WrapProofs
