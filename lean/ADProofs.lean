import ADProofs.ListLemmas
import ADProofs.Basic
import ADProofs.Join
import ADProofs.FluxTable
import ADProofs.Run
import ADProofs.Conn
import ADProofs.Forest
import ADProofs.Contour
import ADProofs.GridProofs
import ADProofs.PruneProofs
import ADProofs.AssignedProofs
import ADProofs.IndexProofs
import ADProofs.NewickProofs
import ADProofs.SimProofs
import ADProofs.EqProofs
import ADProofs.PlotProofs
import ADProofs.HubProofs
import ADProofs.Links
import ADProofs.CacheProofs
import ADProofs.HeapPrimProofs
import ADProofs.PruneComputeProofs
import ADProofs.ThresholdProofs
import ADProofs.GridSimProofs
import ADProofs.PruneOrigProofs
import ADProofs.PruneNpixProofs
import ADProofs.MaximaProofs
import ADProofs.IOProofs
import ADProofs.PruneAncestors
import ADProofs.PickProofs
import ADProofs.CacheNpixProofs
import ADProofs.ReachProofs
import ADProofs.OrderChecks
import ADProofs.TieProofs
import ADProofs.LeafCountProofs
import ADProofs.CachePixProofs
import ADProofs.HeapRefine
import ADProofs.GrowProofs
import ADProofs.LabelMapProofs
import ADProofs.FinalLabelProofs
import ADProofs.PruneLoopRefine
import ADProofs.ComputeHeapRefine
