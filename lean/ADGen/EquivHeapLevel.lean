import ADProofs.HeapPrimProofs
import ADGen.Gen

/-!
# The level query generated from `Structure.level` equals the model's `Heap.level`

The generated loop only reads.  After it the code writes `self._level`, then
`self.parent._level`, and returns `self._level` read again, where the model returns the value it computed.  The two
agree unless the second write lands on `self`: hence the hypothesis `hself` of the equation (an object is not its own
parent), which every well-formed heap meets.
-/

namespace GenEq
open Heap

/-- the generated `while obj._level is None` loop is the model's `walkLevel` -/
theorem h_level_loop1_spec (h : Heap) (fuel self obj diff : Nat) :
    match Gen.h_level.loop1 fuel h self obj diff with
    | none => Heap.walkLevel h fuel obj diff = none
    | some (h', obj', d') =>
        h' = h ∧ ∃ l, h.fLvl obj' = some l ∧ Heap.walkLevel h fuel obj diff = some (l, d') := by
  induction fuel generalizing obj diff with
  | zero => simp [Gen.h_level.loop1, Heap.walkLevel]
  | succ fuel ih =>
    unfold Gen.h_level.loop1 Heap.walkLevel
    cases hg : h.get obj with
    | none => simp [Heap.fLvl, Heap.fParent, hg]
    | some o =>
      cases hl : o.lvl with
      | some l => simp [Heap.fLvl, hg, hl]
      | none =>
        cases hp : o.parent with
        | none => simp [Heap.fLvl, Heap.fParent, hg, hl, hp]
        | some p =>
          simp only [Heap.fLvl, Heap.fParent, hg, hl, hp, Option.bind_some, Option.isNone_none, if_true]
          exact ih p (diff + 1)

theorem fLvl_setLvl (h : Heap) (i j : Nat) (v : Option Nat) :
    (h.setLvl i v).fLvl j = if j = i then (h.get i).bind (fun _ => v) else h.fLvl j := by
  unfold Heap.fLvl
  rw [get_setLvl]
  split
  · cases h.get i <;> rfl
  · rfl

theorem fParent_setLvl (h : Heap) (i j : Nat) (v : Option Nat) :
    (h.setLvl i v).fParent j = h.fParent j := by
  unfold Heap.fParent
  rw [get_setLvl]
  split
  · subst j; cases h.get i <;> rfl
  · rfl

/-- an error in the Python, or the loop out of fuel (`none`), is the model's answer `none` -/
theorem h_level_eq (h : Heap) (fuel i : Nat) (hi : (h.get i).isSome) (hself : h.fParent i ≠ some i) :
    Gen.h_level h fuel i =
      (match Heap.level h fuel i with
       | (h', some r) => some (h', some r)
       | (_, none) => none) := by
  obtain ⟨o, hg⟩ := Option.isSome_iff_exists.mp hi
  unfold Gen.h_level Heap.level
  have hfl : h.fLvl i = o.lvl := by simp [Heap.fLvl, hg]
  have hfp : h.fParent i = o.parent := by simp [Heap.fParent, hg]
  rw [hfp] at hself
  simp only [hg, hfl, hfp, fLvl_setLvl, fParent_setLvl, if_true, Option.bind_some]
  cases hl : o.lvl with
  | some l => simp
  | none =>
    cases hp : o.parent with
    | none => simp [Heap.setLvl]
    | some p =>
      -- the write-back into the parent's cache must not hit `i` itself
      have hip : i ≠ p := fun e => hself (e ▸ hp)
      have hflp : h.fLvl p = (h.get p).bind (·.lvl) := rfl
      simp only [← hflp]
      cases hpl : h.fLvl p with
      | some pl => simp [Heap.setLvl]
      | none =>
        have hloop := h_level_loop1_spec h fuel i p 1
        split at hloop
        · next hlp => simp [hlp, hloop]
        · next h' obj' d' hlp =>
          obtain ⟨rfl, l, hlo, hw⟩ := hloop
          simp [hlp, hw, hlo, hg, hfp, hp, hip, Heap.setLvl]

/-- with the fuel the history machine uses the generated query succeeds and is exactly the model's step -/
theorem h_level_total (h : Heap) (i : Nat) (hwf : P17.WF h) (hs : P17.Sound h) (hi : i ∈ h.alive) :
    Gen.h_level h h.size i = some (Heap.level h h.size i) := by
  obtain ⟨o, hg⟩ := hwf.alive_get i hi
  rw [h_level_eq h h.size i (by simp [hg]) (by simpa [Heap.fParent, hg] using hwf.parent_ne hi hg)]
  -- the model's answer is the specified level, which exists
  have h1 := (P17.level_fills hwf hs hi).1
  obtain ⟨l, hl⟩ := P17.specLevel_alive hwf hi
  rw [hl] at h1
  generalize Heap.level h h.size i = r at h1
  obtain ⟨h', a⟩ := r
  cases h1
  rfl

end GenEq

#print axioms GenEq.h_level_eq
#print axioms GenEq.h_level_total
