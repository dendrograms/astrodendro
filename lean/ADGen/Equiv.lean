import ADModel.Prune
import ADModel.Eq
import ADModel.Identify
import ADModel.Width
import ADProofs.Basic
import ADProofs.GridProofs
import ADProofs.FluxTable
import ADGen.Gen
/-!
# ADGen.Equiv — the generated definitions (`ADGen/Gen.lean`, translated from astrodendro's Python source by
`harness/py2lean.py` on every run) equal the hand-written model, for all inputs

Every theorem here is re-checked against the *regenerated* `Gen.lean` whenever the source of a fragment changes.
Proofs unfold the generated definition and its model counterpart and leave the Boolean / linear-arithmetic goal to
`grind` wherever possible, so that a rewrite of the Python that keeps the meaning (`a - b >= d` ↦ `a >= b + d`, swapped
branches, `not (x < y)` ↦ `x >= y`) still checks, while a change of meaning does not.
-/
open Tree

namespace GenEq

/-- `_py` (the `.item()` unwrapping of NumPy scalars) is the identity on numbers -/
@[simp] theorem py_id (b : Bool) (x : Int) : Gen.min_delta___py b x = x := by
  unfold Gen.min_delta___py; split <;> rfl

/-- `_diff` (equal values are zero apart — the guard for two infinities) is the difference on numbers -/
@[simp] theorem diff_id (b : Bool) (x y : Int) : Gen.min_delta___diff b x y = x - y := by
  unfold Gen.min_delta___diff
  split <;> simp_all <;> omega

/-! ## pruning.py -/

/-- `min_delta` called at merge time (`value` given) is the model's compute-time test -/
theorem min_delta_merge (val : Nat → Int) (d : Int) (t : Tree) (v sh ph : Int) (hp b : Bool) :
    Gen.min_delta d (t.vmax val) (t.vmin val) sh hp ph true v b = Crit.atMerge val (.minDelta d) t v := by
  simp only [Gen.min_delta, Crit.atMerge, py_id, diff_id]
  grind

/-- `min_delta` called without a value on a parentless structure -/
theorem min_delta_orphan (val : Nat → Int) (d : Int) (t : Tree) (v ph : Int) (b : Bool) :
    Gen.min_delta d (t.vmax val) (t.vmin val) (t.height val) false ph false v b = Crit.orphan val (.minDelta d) t := by
  simp only [Gen.min_delta, Crit.orphan, py_id, diff_id]
  grind

/-- `min_delta` called without a value on a structure that has a parent (what `prune` does) -/
theorem min_delta_child (val : Nat → Int) (d : Int) (parent t : Tree) (v : Int) (b : Bool) :
    Gen.min_delta d (t.vmax val) (t.vmin val) (t.height val) true (parent.height val) false v b
      = Crit.child val (.minDelta d) parent t := by
  simp only [Gen.min_delta, Crit.child, py_id, diff_id]
  grind

theorem min_npix_eq (val : Nat → Int) (n : Nat) (parent t : Tree) (v : Int) :
    Gen.min_npix n t.pixels.length = Crit.atMerge val (.minNpix n) t v ∧
    Gen.min_npix n t.pixels.length = Crit.orphan val (.minNpix n) t ∧
    Gen.min_npix n t.pixels.length = Crit.child val (.minNpix n) parent t := by
  simp only [Gen.min_npix, Crit.atMerge, Crit.orphan, Crit.child]
  grind

theorem min_peak_eq (val : Nat → Int) (x : Int) (parent t : Tree) (v : Int) :
    Gen.min_peak x (t.vmax val) = Crit.atMerge val (.minPeak x) t v ∧
    Gen.min_peak x (t.vmax val) = Crit.orphan val (.minPeak x) t ∧
    Gen.min_peak x (t.vmax val) = Crit.child val (.minPeak x) parent t := by
  simp only [Gen.min_peak, Crit.atMerge, Crit.orphan, Crit.child]
  grind

theorem min_sum_eq (val : Nat → Int) (s : Int) (parent t : Tree) (v : Int) :
    Gen.min_sum s (sumVals val t.pixels) = Crit.atMerge val (.minSum s) t v ∧
    Gen.min_sum s (sumVals val t.pixels) = Crit.orphan val (.minSum s) t ∧
    Gen.min_sum s (sumVals val t.pixels) = Crit.child val (.minSum s) parent t := by
  simp only [Gen.min_sum, Crit.atMerge, Crit.orphan, Crit.child]
  grind

/-! ## Dendrogram.compute -/

/-- a pixel is processed iff its value is *strictly* above the threshold -/
theorem keep_pixel_strict (x thr : Int) (isFloat : Bool) : Gen.keep_pixel x thr isFloat = true ↔ thr < x := by
  simp only [Gen.keep_pixel]
  grind

/-- default threshold on integer data: the model's `defaultMinNew`, strictly below the minimum; an explicit
threshold is left alone -/
theorem default_min_int_eq (m mv : Int) :
    Gen.default_min_int true mv m = defaultMinNew m ∧ Gen.default_min_int true mv m < m ∧
    Gen.default_min_int false mv m = mv := by
  simp [Gen.default_min_int, defaultMinNew]; omega

/-- default threshold on floating-point data lies strictly below the minimum whatever the rounded subtraction
returns, provided `nextafter(x, -inf) < x` -/
theorem default_min_float_lt (m mv : Int) (fsub1 nextDown : Int → Int) (h : ∀ x, nextDown x < x) :
    Gen.default_min_float true mv m fsub1 nextDown < m ∧ Gen.default_min_float false mv m fsub1 nextDown = mv := by
  have := h m
  simp only [Gen.default_min_float]
  constructor
  · by_cases hlt : fsub1 m < m <;> simp [hlt, this]
  · simp

/-- the `merge` comprehension is the model's `insig` -/
theorem insignificant_eq (E : Env) (p : Nat) (t : Tree) :
    Gen.insignificant t.isLeaf (t.vmax E.val) (E.val p) (E.indep t p (E.val p)) = insig E p t := by
  unfold Gen.insignificant insig
  generalize t.isLeaf = a
  generalize E.indep t p (E.val p) = b
  cases a <;> cases b <;> grind

/-- the action blocks of the case analysis, by number (what the model's `joinAdj` does in each case) -/
def action (E : Env) (p : Nat) (adj : List Tree) (k : Int) : Tree :=
  let mrg := adj.filter (insig E p)
  let keep := adj.filter (fun t => !insig E p t)
  if k = 0 then node p [p] []
  else if k = 1 then (match adj with | t :: _ => t.addPixel p | [] => node p [p] [])
  else if k = 2 then (match mrg.reverse with
    | [] => node p [p] []
    | b :: others => others.reverse.foldl Tree.absorb (b.addPixel p))
  else if k = 3 then (match keep with | t :: _ => mrg.foldl Tree.absorb (t.addPixel p) | [] => node p [p] [])
  else mrg.foldl Tree.absorb (node p [p] keep)

/-- the skeleton of the case analysis in the source (number of adjacent structures, then number of those that are
kept) selects the same action as the model's `joinAdj` -/
theorem meeting_case_joinAdj (E : Env) (p : Nat) (adj : List Tree) :
    joinAdj E p adj
      = action E p adj (Gen.meeting_case adj.length (adj.filter (fun t => !insig E p t)).length) := by
  have mc (a b : Nat) : Gen.meeting_case (a : Int) (b : Int) =
      if a = 0 then 0 else if a = 1 then 1 else if b = 0 then 2 else if b = 1 then 3 else 4 := by
    simp only [Gen.meeting_case]
    grind
  rw [mc]
  match adj with
  | [] => simp [joinAdj, action]
  | [t] => simp [joinAdj, action]
  | a :: b :: rest =>
    generalize hk : (a :: b :: rest).filter (fun t => !insig E p t) = keep
    unfold joinAdj
    simp only [hk]
    match keep with
    | [] =>
      simp only [action, hk]
      simp
      cases (List.filter (insig E p) (a :: b :: rest)).reverse <;> rfl
    | [t] => simp only [action, hk]; simp
    | x :: y :: zs => simp only [action, hk]; simp

/-! ## prune, `__eq__`, `structure_at` -/

/-- `prune`'s parameter bookkeeping is the model's `pruneParam`, per parameter -/
theorem prune_params_eq (d n rd rn : Int) :
    Gen.prune_params d n rd rn
      = ((pruneParam rd d).1, (pruneParam rn n).1, (pruneParam rd d).2, (pruneParam rn n).2) := by
  simp only [Gen.prune_params, pruneParam]
  by_cases h1 : d = 0 <;> by_cases h2 : n = 0 <;> simp [h1, h2] <;>
    (repeat' split) <;> simp_all <;> omega

/-- recorded parameters never decrease, and a zero request inherits the recorded value -/
theorem prune_params_monotone (d n rd rn : Int) :
    rd ≤ (Gen.prune_params d n rd rn).2.2.1 ∧ rn ≤ (Gen.prune_params d n rd rn).2.2.2 ∧
    (d = 0 → (Gen.prune_params d n rd rn).1 = rd) ∧ (n = 0 → (Gen.prune_params d n rd rn).2.1 = rn) := by
  rw [prune_params_eq]
  simp only [pruneParam]
  grind

/-- the parameter part of `__eq__` is the model's `compat` on both parameters -/
theorem eq_params_eq (smv : Bool) (an bn ad bd : Int) :
    Gen.eq_params smv an bn ad bd = (smv && DView.compat ad bd && DView.compat an bn) := by
  simp only [Gen.eq_params, DView.compat]
  grind

/-- `structure_at` returns a structure exactly for non-negative labels (−1 = unassigned) -/
theorem structure_at_hit_iff (idx : Int) : Gen.structure_at_hit idx = true ↔ 0 ≤ idx := by
  simp only [Gen.structure_at_hit]
  grind

/-! ## periodic_neighbours -/

/-- The model's `axisNbrs` on an axis of length `n` (padded length `n + 1`) are the candidates `c ± 1`, passed through
`_wrap` when the axis is periodic, that land on a real cell `0 … n-1`; a candidate `-1` that is not wrapped reads the
padding cell (NumPy's index −1 is the last one), a candidate `n` is the padding cell. -/
theorem wrap_axis_nbrs (n c : Nat) (hc : c < n) (per : Bool) (d : Nat) :
    d ∈ Grid.axisNbrs n per c ↔
      ∃ x : Int, (x = (c : Int) + 1 ∨ x = (c : Int) - 1) ∧
        (if per then Gen.wrap_axis x ((n : Int) + 1) else x) = (d : Int) ∧ d < n := by
  rw [GridProofs.axisNbrs_mem n per c d hc]
  simp only [Gen.wrap_axis, exists_eq_or_imp, exists_eq_left]
  grind

/-! ## structure.py -/

/-- `_add_pixel` maintains minimum, maximum and smallest pixel as the model derives them from the pixel list -/
theorem add_pixel_eq (val : Nat → Int) (t : Tree) (p : Nat) (h : t.own ≠ []) :
    Gen.add_pixel (val p) (p : Int) (t.vmin val) (t.vmax val) (t.smallest : Int)
      = ((t.addPixel p).vmin val, (t.addPixel p).vmax val, ((t.addPixel p).smallest : Int)) := by
  rw [P8.vmin_addPixel val t p h, P8.vmax_addPixel val t p h, P8.smallest_addPixel t p h]
  simp only [Gen.add_pixel, Prod.mk.injEq]
  grind

/-- `_merge` likewise -/
theorem merge_summaries_eq (val : Nat → Int) (t m : Tree) (ht : t.own ≠ []) (hm : m.own ≠ []) :
    Gen.merge_summaries (m.vmin val) (m.vmax val) (m.smallest : Int) (t.vmin val) (t.vmax val) (t.smallest : Int)
      = ((t.absorb m).vmin val, (t.absorb m).vmax val, ((t.absorb m).smallest : Int)) := by
  rw [P8.vmin_absorb val t m ht hm, P8.vmax_absorb val t m ht hm, P8.smallest_absorb t m ht hm]
  simp only [Gen.merge_summaries, Prod.mk.injEq]
  grind

/-- `TreeIndex.indices` hands out the subtree count with `subtree=True` and the own count otherwise -/
theorem tree_index_count_eq (nSub nOwn : Int) :
    Gen.tree_index_count nSub nOwn true = nSub ∧ Gen.tree_index_count nSub nOwn false = nOwn := by
  simp [Gen.tree_index_count]

/-! ## io -/

/-- `is_fits` is the model's `isFits`: signature for an existing file opened for reading, extension otherwise -/
theorem is_fits_eq (name : List Char) (read : Bool) (head : Option (List Nat)) :
    Gen.is_fits read head.isSome ((head.getD []).take 30 == Identify.fitsSig)
        (Identify.fitsExts.any (Identify.endsWith (Identify.lower name)))
      = Identify.isFits name read head := by
  unfold Identify.isFits Gen.is_fits
  generalize Identify.fitsExts.any _ = e
  cases read <;> cases head <;> simp

theorem is_hdf5_eq (name : List Char) (read : Bool) (head : Option (List Nat)) :
    Gen.is_hdf5 read head.isSome ((head.getD []).take 8 == Identify.hdf5Sig)
        (Identify.hdf5Exts.any (Identify.endsWith (Identify.lower name)))
      = Identify.isHdf5 name read head := by
  unfold Identify.isHdf5 Gen.is_hdf5
  generalize Identify.hdf5Exts.any _ = e
  cases read <;> cases head <;> simp

/-- the literal tables in the source are the model's tables -/
theorem io_tables :
    Gen.fits_signature = Identify.fitsSig ∧ Gen.hdf5_signature = Identify.hdf5Sig ∧
    Gen.fits_extensions.map String.toList = Identify.fitsExts ∧
    Gen.hdf5_extensions.map String.toList = Identify.hdf5Exts ∧
    Gen.io_formats = ["fits", "hdf5"] := by
  decide +kernel

/-! ## prune loop, `_make_trunk`, catalog edge-wrap heuristic -/

/-- `_to_prune` hands a structure to the caller exactly when it is a leaf, still present, fails the criteria and has a
parent — the test of the model's scan (`pruneKids`: `k.isLeaf`, `ic P k` false, inside a parent `P`) -/
theorem to_prune_yields_iff (isLeaf alive indep hasParent : Bool) :
    Gen.to_prune_yields isLeaf alive indep hasParent = (isLeaf && alive && !indep && hasParent) := by
  revert isLeaf alive indep hasParent
  decide

/-- the two-sibling rule: with exactly two children both are merged, with more only the failing leaf — the model's
`pruneAt` (branches have ≥ 2 children: `C02_arity`, `C07_arity_preserved`) -/
theorem prune_merge_mode_eq (P k : Tree) (h2 : 2 ≤ P.kids.length) :
    pruneAt P k = (if Gen.prune_merge_mode P.kids.length = 2 then P.kids.foldl mergeInto P else mergeInto P k) ∧
    Gen.prune_merge_mode P.kids.length ≠ 0 := by
  simp only [Gen.prune_merge_mode, pruneAt]
  grind

/-- `_make_trunk` removes a parentless leaf exactly when it fails the value-less criteria (the model's `makeTrunk`
filter `!(t.isLeaf && !E.indepOrphan t)` keeps the others) -/
theorem trunk_drop_iff (E : Env) (t : Tree) (hl : t.isLeaf = true) :
    Gen.trunk_drop (E.indepOrphan t) = (t.isLeaf && !E.indepOrphan t) := by
  unfold Gen.trunk_drop
  rw [hl]
  cases E.indepOrphan t <;> grind

/-- the edge-wrap heuristic, element by element and its acceptance test, are the formulas of `Catalog.wrapAxis`
(`i2 = x + n` where `2x < n`, taken iff the spread gets strictly smaller) -/
theorem wrap_heuristic_eq (x n a b : Int) :
    Gen.wrap_elem x n = (if 2 * x < n then x + n else x) ∧ Gen.wrap_use a b = decide (a < b) := by
  simp only [Gen.wrap_elem, Gen.wrap_use]
  grind

/-! ## flux.py -/

/-- the code the generated `flux_table` returns for each error: `harness/genspec.py` (`raise_codes`) numbers the `raise`
statements of `compute_flux` by their message -/
def outcomeCode : Flux.Outcome → Int
  | .ok => 0 | .wavelengthDim => 1 | .wavelengthMissing => 2 | .spatialDim => 3 | .spatialMissing => 4
  | .bmajDim => 5 | .bmajMissing => 6 | .bminDim => 7 | .bminMissing => 8 | .unsupported => 9 | .outputUnit => 10

/-- the code it returns when a conversion is reached: `genspec.py` lets `101`–`105` stand for the five expressions that
compute the total -/
def familyCode : Flux.Dim → Int
  | .fnu => 101 | .flambda => 102 | .surf => 103 | .perBeam => 104 | .temp => 105 | _ => 0

/-- `compute_flux`, as far as its control flow goes, is the model's error table `Flux.outcome`: the same check fires
first for every combination of input family, present / absent / mis-dimensioned metadata items and output unit, and
when none fires the conversion of the input's own family is the one that produces the result -/
theorem flux_table_eq (input output : Flux.Dim) (m : Flux.MetaDims) :
    Gen.flux_table (input == .fnu) (input == .flambda) (input == .surf) (input == .perBeam) (input == .temp)
        m.wavelength.isSome (m.wavelength == some .length)
        (m.wavelength == some .length || m.wavelength == some .freq)
        m.spatial.isSome (m.spatial == some .angle) m.bmaj.isSome (m.bmaj == some .angle)
        m.bmin.isSome (m.bmin == some .angle) (output == .fnu)
      = (if Flux.outcome input m output = .ok then familyCode input
         else outcomeCode (Flux.outcome input m output)) := by
  cases input <;>
    simp [Gen.flux_table, Flux.outcome, Flux.metaCheck_eq, Flux.need, familyCode, outcomeCode, Option.orElse] <;>
    grind

end GenEq
