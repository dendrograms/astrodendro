import ADProofs.HeapPrimProofs
import ADGen.Gen
import ADGen.EquivHeapLevel
import ADGen.EquivHeapAncestor
import ADGen.EquivHeapDesc
import ADGen.EquivHeapPrune
/-!
# ADGen.EquivHeapHistory — whole histories run by the generated code

The four per-operation equivalences (`h_level_total`, `h_ancestor_total`, `h_descendants_total`, `h_prune_eq`) are
lifted to histories: on a legal history from a well-formed heap with sound caches and unique identifiers, the code
generated from the Python source never raises and is, step by step, the model's `Heap.stepC`; hence
`P17.history_sound` transfers to it.
-/

namespace GenEq
open Heap

/-- one operation of a history as the generated code performs it (the Newick export is the model's: the recursive
    property is not translated) -/
def genStep (h : Heap) : COp → Option (Heap × CObs)
  | .qLevel i => (Gen.h_level h h.size i).map fun r => (r.1, CObs.nat r.2)
  | .qAnc i => (Gen.h_ancestor h h.size i).map fun r => (r.1, CObs.nat r.2)
  | .qDesc i => (Gen.h_descendants h h.size i).map fun r => (r.1, CObs.list r.2)
  | .qNewick i => some (let r := h.newick h.size i; (r.1, CObs.str r.2))
  | .prune ms => (genPrune h ms).map fun h' => (h', CObs.unit)

theorem genStep_eq (h : Heap) (op : COp) (hu : UniqIds h) (hwf : P17.WF h) (hs : P17.Sound h) (hl : P17.LegalOp h op) :
    genStep h op = some (h.stepC op) := by
  cases op with
  | qLevel i => simp only [genStep, h_level_total h i hwf hs hl, Option.map_some, Heap.stepC]
  | qAnc i => simp only [genStep, h_ancestor_total h i hwf hs hl hu, Option.map_some, Heap.stepC]
  | qDesc i => simp only [genStep, h_descendants_total h i hwf hs hl, Option.map_some, Heap.stepC]
  | qNewick i => rfl
  | prune ms => simp only [genStep, h_prune_eq h ms hu hwf hl, Option.map_some, Heap.stepC]

theorem uniqIds_stepC (h : Heap) (op : COp) (hu : UniqIds h) : UniqIds (h.stepC op).1 :=
  hu.of_ids (ids_stepC h op)

/-- a whole history run by the generated code: (observed, specified-at-that-moment) pairs; `none` = some step raised -/
def genRun : Heap → List COp → Option (List (CObs × CObs))
  | _, [] => some []
  | h, op :: ops =>
    match genStep h op with
    | none => none
    | some r => (genRun r.1 ops).map fun l => (r.2, h.specObs op) :: l

theorem genRun_eq (h : Heap) (ops : List COp) (hu : UniqIds h) (hwf : P17.WF h) (hs : P17.Sound h)
    (hlegal : P17.LegalHist h ops) : genRun h ops = some (Heap.runHistory Heap.stepC h ops) := by
  induction ops generalizing h with
  | nil => rfl
  | cons op ops ih =>
    obtain ⟨_, h2, h3⟩ := P17.stepC_sound h op hwf hs hlegal.1
    simp only [genRun, genStep_eq h op hu hwf hs hlegal.1, Heap.runHistory,
      ih _ (uniqIds_stepC h op hu) h2 h3 hlegal.2, Option.map_some]

/-- **the code generated from the Python source never raises on a legal history and every answer is the one a freshly
    constructed dendrogram with the same links would give** -/
theorem gen_history_sound (h : Heap) (ops : List COp) (hu : UniqIds h) (hwf : P17.WF h) (hs : P17.Sound h)
    (hlegal : P17.LegalHist h ops) : ∃ l, genRun h ops = some l ∧ ∀ pr ∈ l, pr.1 = pr.2 :=
  ⟨_, genRun_eq h ops hu hwf hs hlegal, P17.history_sound h ops hwf hs hlegal⟩

/-- the witness heap of `CacheProofs` and its repaired-witness history (queries, a prune of a legal merge list, queries
    again) meet the hypotheses of `gen_history_sound` -/
example : UniqIds P17.h0 ∧ P17.WF P17.h0 ∧ P17.Sound P17.h0 ∧
    P17.LegalHist P17.h0 [.qLevel 4, .qDesc 0, .qNewick 0, .prune [2, 3], .qLevel 4, .qDesc 0, .qNewick 0, .qAnc 5] :=
  ⟨h0_uniqIds, P17.h0_wf, P17.h0_sound, P17.h0_legal⟩

/-- and on it the generated code indeed runs to the end, eight answers, none stale -/
example : ∃ l, genRun P17.h0 [.qLevel 4, .qDesc 0, .qNewick 0, .prune [2, 3], .qLevel 4, .qDesc 0, .qNewick 0, .qAnc 5]
    = some l ∧ l.length = 8 ∧ ∀ pr ∈ l, pr.1 = pr.2 :=
  ⟨_, genRun_eq _ _ h0_uniqIds P17.h0_wf P17.h0_sound P17.h0_legal, by decide +kernel,
    P17.history_sound _ _ P17.h0_wf P17.h0_sound P17.h0_legal⟩

end GenEq

#print axioms GenEq.genStep_eq
#print axioms GenEq.uniqIds_stepC
#print axioms GenEq.genRun_eq
#print axioms GenEq.gen_history_sound
