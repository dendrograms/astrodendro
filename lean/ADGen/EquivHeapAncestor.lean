import ADProofs.HeapPrimProofs
import ADGen.Gen
/-!
# ADGen.EquivHeapAncestor — the generated `Structure.ancestor` equals the model's `Heap.ancestor`

The Python loop overwrites `self._ancestor` in every iteration; the model's `walkAnc` walks on the unmodified heap
and writes once at the end.  They agree when the walk never comes back to `self` and stays on existing objects
(`Anc.Avoids`), which holds in every well-formed heap with sound caches (`Anc.avoids_start`).

One more difference: when `self._ancestor` is already cached and parentless, the Python code writes nothing, while the
model re-writes the cache (`h.update i …`, which touches *every* object of `objs` carrying the identifier `i`).  These
are the same heap exactly when all objects named `i` are the one `Heap.get` finds (`Anc.OneObj h i`, implied by
duplicate-free identifiers).  `P17.WF` only speaks through `Heap.get`, so this is an explicit hypothesis;
`Anc.cex_total` shows it cannot be dropped.  `h_ancestor_eq'` is the statement without that hypothesis.
-/

namespace GenEq.Anc
open Heap

theorem fAnc_setAnc_self (h : Heap) (i : Nat) (v : Option Nat) (hi : (h.get i).isSome) :
    (h.setAnc i v).fAnc i = v := by
  obtain ⟨o, hg⟩ := Option.isSome_iff_exists.1 hi
  simp [Heap.fAnc, get_setAnc, hg]

def OneObj (h : Heap) (i : Nat) : Prop := ∀ o ∈ h.objs, o.id = i → h.get i = some o

/-- the walk of `walkAnc` from `a` (cached ancestor if present, else parent) stays on existing objects, ends, and
    never visits `i` -/
inductive Avoids (h : Heap) (i : Nat) : Nat → Prop
  | root {a ao} : a ≠ i → h.get a = some ao → ao.parent = none → Avoids h i a
  | step {a ao ap} : a ≠ i → h.get a = some ao → ao.parent = some ap → Avoids h i (ao.anc.getD ap) → Avoids h i a

theorem walkAnc_root {h : Heap} {fuel a r : Nat} (hr : h.walkAnc fuel a = some r) :
    ∃ ro, h.get r = some ro ∧ ro.parent = none := by
  induction fuel generalizing a with
  | zero => simp [Heap.walkAnc] at hr
  | succ fuel ih =>
    cases hg : h.get a with
    | none => simp [Heap.walkAnc, hg] at hr
    | some ao =>
      cases hp : ao.parent with
      | none =>
        rw [P17.walkAnc_stop hg hp, Option.some.injEq] at hr
        exact hr ▸ ⟨ao, hg, hp⟩
      | some ap => exact ih ((P17.walkAnc_step hg hp fuel).symm.trans hr)

theorem loop_step {g : Heap} {i a : Nat} {ao : Obj} (ha : g.fAnc i = some a) (hg : g.get a = some ao) (fuel : Nat) :
    Gen.h_ancestor.loop1 (fuel + 1) g i =
      match ao.parent with
      | none => some g
      | some ap => Gen.h_ancestor.loop1 fuel (g.setAnc i (some (ao.anc.getD ap))) i := by
  have hpa : g.fParent a = ao.parent := by simp [Heap.fParent, hg]
  have haa : g.fAnc a = ao.anc := by simp [Heap.fAnc, hg]
  rw [Gen.h_ancestor.loop1]
  cases hp : ao.parent <;> cases hc : ao.anc <;> simp [ha, hpa, haa, hp, hc]

theorem loop_eq (h : Heap) (i : Nat) (hi : (h.get i).isSome) {a : Nat} (hw : Avoids h i a) (fuel : Nat) :
    Gen.h_ancestor.loop1 fuel (h.setAnc i (some a)) i = (h.walkAnc fuel a).map fun r => h.setAnc i (some r) := by
  induction fuel generalizing a with
  | zero => rfl
  | succ fuel ih =>
    -- the walk is not at `i`, so it reads the objects of `h`
    have hga {ao} (hne : a ≠ i) (hg : h.get a = some ao) : (h.setAnc i (some a)).get a = some ao := by
      rw [get_setAnc, if_neg hne, hg]
    cases hw with
    | @root _ ao hne hg hp =>
      rw [loop_step (fAnc_setAnc_self _ _ _ hi) (hga hne hg), P17.walkAnc_stop hg hp, hp]
      rfl
    | @step _ ao ap hne hg hp hw' =>
      rw [loop_step (fAnc_setAnc_self _ _ _ hi) (hga hne hg), P17.walkAnc_step hg hp, ← ih hw', hp]
      simp only [setAnc_setAnc]

/-- on `h` itself, whose cache of `i` holds `a`: nothing is written if the loop does not iterate -/
theorem loop_eq_cached (h : Heap) (i : Nat) {a : Nat} (ha : h.fAnc i = some a) (hw : Avoids h i a) (fuel : Nat) :
    Gen.h_ancestor.loop1 fuel h i = (h.walkAnc fuel a).map fun r => if a = r then h else h.setAnc i (some r) := by
  obtain ⟨io, hgi, _⟩ := Option.bind_eq_some_iff.1 ha
  cases fuel with
  | zero => rfl
  | succ fuel =>
    cases hw with
    | @root _ ao hne hg hp =>
      rw [loop_step ha hg, P17.walkAnc_stop hg hp, hp]
      simp
    | @step _ ao ap hne hg hp hw' =>
      rw [loop_step ha hg, P17.walkAnc_step hg hp, hp]
      simp only [loop_eq h i (by simp [hgi]) hw' fuel]
      cases hwk : h.walkAnc fuel (ao.anc.getD ap) with
      | none => rfl
      | some r =>
        -- `r` is parentless, `a` is not
        obtain ⟨ro, hgr, hpr⟩ := walkAnc_root hwk
        have hra : a ≠ r := by
          intro e; subst e; rw [hg] at hgr; cases hgr; rw [hp] at hpr; cases hpr
        rw [Option.map_some, Option.map_some, if_neg hra]

/-- no assumption on duplicate identifiers: the cache is written unless it already held a parentless object -/
theorem h_ancestor_eq' (h : Heap) (fuel i : Nat) (o : Obj) (hg : h.get i = some o)
    (hw : ∀ p, o.parent = some p → Avoids h i (o.anc.getD p)) :
    Gen.h_ancestor h fuel i =
      match o.parent with
      | none => some (h, some i)
      | some p => (h.walkAnc fuel (o.anc.getD p)).map fun r =>
          (if o.anc = some r then h else h.setAnc i (some r), some r) := by
  have hfp : h.fParent i = o.parent := by simp [Heap.fParent, hg]
  have hfa : h.fAnc i = o.anc := by simp [Heap.fAnc, hg]
  have hi : (h.get i).isSome := by simp [hg]
  unfold Gen.h_ancestor
  cases hp : o.parent with
  | none => simp [hfp, hp]
  | some p =>
    have hav := hw p hp
    simp only [hfp, hp, hfa]
    cases hc : o.anc with
    | none =>
      -- the cache is first set to the parent
      simp only [hc, Option.getD_none] at hav
      simp [loop_eq h i hi hav fuel]
      cases h.walkAnc fuel p <;> simp [fAnc_setAnc_self _ _ _ hi]
    | some a =>
      simp only [hc, Option.getD_some] at hav
      simp [loop_eq_cached h i (hfa.trans hc) hav fuel]
      cases h.walkAnc fuel a with
      | none => rfl
      | some r => by_cases e : a = r <;> simp [e, hfa, hc, fAnc_setAnc_self _ _ _ hi]

/-- the walk from a proper ancestor of `i` goes on to proper ancestors, all of smaller rank than `i` -/
theorem avoids_of_reach {h : Heap} (w : P17.WF h) (hs : P37.AncSound h) {i : Nat} (hi : i ∈ h.alive) {a : Nat}
    (t : P17.Reach h i a) : Avoids h i a := by
  obtain ⟨rk, hr⟩ := w.rank
  have ha := t.alive_rank w hr hi
  obtain ⟨io, hgi⟩ := w.alive_get i hi
  refine w.reach_induction hr (motive := fun _ a => P17.Reach h i a → Avoids h i a) ?_ h.size a ha.1
    (by have := (hr i hi io hgi).1; omega) t
  intro _ a ao ha hg ih t
  have hne : a ≠ i := by intro e; have := (t.alive_rank w hr hi).2; rw [e] at this; omega
  cases hp : ao.parent with
  | none => exact .root hne hg hp
  | some ap =>
    have t' := P17.Reach.hop hs ha hg hp
    exact .step hne hg hp ((ih _ t').2 (t.trans t'))

theorem avoids_start {h : Heap} (w : P17.WF h) (hs : P17.Sound h) {i : Nat} (hi : i ∈ h.alive) {o : Obj}
    (hg : h.get i = some o) (p : Nat) (hp : o.parent = some p) : Avoids h i (o.anc.getD p) :=
  avoids_of_reach w (P37.Sound.ancSound hs) hi (.hop (P37.Sound.ancSound hs) hi hg hp)

/-- no assumption on duplicate identifiers: the generated query succeeds with the model's answer and a heap that `get`
    cannot tell from the model's (same `objs` length, same `alive`) -/
theorem h_ancestor_total_get (h : Heap) (i : Nat) (hwf : P17.WF h) (hs : P17.Sound h) (hi : i ∈ h.alive) :
    ∃ h', Gen.h_ancestor h h.size i = some (h', (Heap.ancestor h h.size i).2) ∧
      (∀ j, h'.get j = (Heap.ancestor h h.size i).1.get j) ∧ h'.alive = (Heap.ancestor h h.size i).1.alive ∧
      h'.size = (Heap.ancestor h h.size i).1.size := by
  obtain ⟨o, hg⟩ := hwf.alive_get i hi
  obtain ⟨rk, hr⟩ := hwf.rank
  rw [h_ancestor_eq' h h.size i o hg (avoids_start hwf hs hi hg)]
  unfold Heap.ancestor
  simp only [hg]
  cases hp : o.parent with
  | none => exact ⟨h, rfl, fun _ => rfl, rfl, rfl⟩
  | some p =>
    simp only []
    have har := (P17.Reach.hop (P37.Sound.ancSound hs) hi hg hp).alive_rank hwf hr hi
    obtain ⟨r, h1, _⟩ := P17.walkAnc_spec hwf (P37.Sound.ancSound hs) hr h.size _ har.1
      (by have := (hr i hi o hg).1; omega)
    simp only [h1, Option.map_some]
    refine ⟨_, rfl, ?_⟩
    split
    · -- the cache held `r` already: the model's write does not change what `get` finds
      rename_i hc
      have := get_update_fix hg (f := fun o => { o with anc := some r }) (fun _ => rfl)
        (by cases o; simp only at hc; simp [hc])
      exact ⟨fun j => (this j).symm, rfl, (P17.update_size _ _ _).symm⟩
    · exact ⟨fun _ => rfl, rfl, rfl⟩

/-- a well-formed sound heap with a duplicated identifier on which the generated query and the model differ as
    heaps (the model re-writes the shadowed duplicate's cache, the Python code writes nothing) -/
def cexHeap : Heap :=
  { objs := [ { id := 0, kids := [1], lvl := some 0 }, { id := 1, parent := some 0, anc := some 0 },
              { id := 1, parent := some 0 } ],
    alive := [0, 1] }

theorem cexHeap_wf : P17.WF cexHeap := .of_links (.of_rank id (by decide +kernel))

theorem cexHeap_sound : P17.Sound cexHeap := by
  have key : ∀ i ∈ cexHeap.alive, ∀ o, cexHeap.get i = some o → (∀ a, o.anc = some a → o.id = 1 ∧ a = 0) ∧
      o.desc = none ∧ o.nw = none ∧ (o.parent = none → o.lvl = some 0) ∧
      (∀ l, o.lvl = some l → cexHeap.specLevel cexHeap.size o.id = some l) := by
    decide +kernel
  intro i hi o hg
  obtain ⟨k1, k2, k3, k4, k5⟩ := key i hi o hg
  refine ⟨k5, ?_, by simp [k2], by simp [k3], k4⟩
  intro a ha
  obtain ⟨e1, e2⟩ := k1 a ha
  rw [e1, e2]
  exact .one (i := 1) (o := { id := 1, parent := some 0, anc := some 0 }) (by decide +kernel) rfl

theorem cex_total : P17.WF cexHeap ∧ P17.Sound cexHeap ∧ 1 ∈ cexHeap.alive ∧
    (Gen.h_ancestor cexHeap cexHeap.size 1).map (fun r => (r.1.objs, r.2)) ≠
      some ((Heap.ancestor cexHeap cexHeap.size 1).1.objs, (Heap.ancestor cexHeap cexHeap.size 1).2) :=
  ⟨cexHeap_wf, cexHeap_sound, by decide +kernel, by decide +kernel⟩

end GenEq.Anc

namespace GenEq
open Heap

/-- for any fuel; the generated query fails exactly when the model's walk runs out of fuel -/
theorem h_ancestor_eq (h : Heap) (fuel i : Nat) (hi : (h.get i).isSome)
    (hw : ∀ p, h.fParent i = some p → Anc.Avoids h i ((h.fAnc i).getD p))
    (hu : Anc.OneObj h i) :
    Gen.h_ancestor h fuel i =
      match Heap.ancestor h fuel i with
      | (h', some r) => some (h', some r)
      | (_, none) => none := by
  obtain ⟨o, hg⟩ := Option.isSome_iff_exists.1 hi
  simp only [Heap.fParent, Heap.fAnc, hg, Option.bind_some] at hw
  rw [Anc.h_ancestor_eq' h fuel i o hg hw]
  unfold Heap.ancestor
  simp only [hg]
  cases hp : o.parent with
  | none => rfl
  | some p =>
    simp only []
    cases hwk : h.walkAnc fuel (o.anc.getD p) with
    | none => rfl
    | some r =>
      simp only [Option.map_some]
      split
      · -- the cache held `r` already: the model's write changes nothing, as `o` is the only object named `i`
        rename_i hc
        rw [update_self]
        intro o' ho' hid
        cases (hu o' ho' hid).symm.trans hg
        cases o; simp only at hc; simp [hc]
      · rfl

/-- with the fuel the history machine uses the query generated from `Structure.ancestor` succeeds and is exactly the
    model's step (same new heap, same answer); `hu` cannot be dropped (`Anc.cex_total`) -/
theorem h_ancestor_total (h : Heap) (i : Nat) (hwf : P17.WF h) (hs : P17.Sound h) (hi : i ∈ h.alive)
    (hu : (h.objs.map (·.id)).Nodup) :
    Gen.h_ancestor h h.size i = some (Heap.ancestor h h.size i) := by
  obtain ⟨o, hg⟩ := hwf.alive_get i hi
  rw [h_ancestor_eq h h.size i (by simp [hg])
    (by simpa only [Heap.fParent, Heap.fAnc, hg, Option.bind_some] using Anc.avoids_start hwf hs hi hg)
    (fun o' ho' hid => hid ▸ get_of_mem hu ho')]
  -- the model's answer is the specified root, which exists
  have h1 := (P17.ancestor_fills hwf hs hi).1
  obtain ⟨r, h2⟩ := P17.specRoot_alive hwf hi
  rw [h2] at h1
  generalize Heap.ancestor h h.size i = res at h1
  obtain ⟨h', x⟩ := res
  cases h1
  rfl

end GenEq

#print axioms GenEq.h_ancestor_eq
#print axioms GenEq.h_ancestor_total
#print axioms GenEq.Anc.h_ancestor_eq'
#print axioms GenEq.Anc.h_ancestor_total_get
#print axioms GenEq.Anc.cex_total
