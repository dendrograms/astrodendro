import ADProofs.HeapPrimProofs
import ADGen.Gen
/-!
# EquivHeapDesc — the generated `Structure.descendants` (`Gen.h_descendants`) is the model's `Heap.descendants`

The generated loop appends level after level to the `desc` field of `self` and keeps only the branches in the next
frontier; `Heap.specDesc` recurses on all children.  Leaves have no kids, so both frontiers have the same children.

Unlike the equations for `level` and `ancestor`, which send a failure of the generated code to the model's answer
`none`, `GenEq.h_descendants_eq` is conditional: if the generated query succeeds, it is the model's step.  When the fuel
runs out the generated loop fails, while `Heap.descendants` answers with what `specDesc` has listed so far.  That fuel
`h.size` is enough in a well-formed heap is `GenEq.h_descendants_total`.
-/

namespace GenEq
open Heap

theorem fDesc_setDesc (h : Heap) (i : Nat) (v : Option (List Nat)) :
    (h.setDesc i v).fDesc i = if (h.get i).isSome then v else none := by
  unfold Heap.fDesc
  rw [get_setDesc]
  cases h.get i <;> simp

theorem specDesc_succ (h : Heap) (n : Nat) (fr : List Nat) :
    h.specDesc (n + 1) fr = fr.flatMap h.fKids ++ h.specDesc n (fr.flatMap h.fKids) :=
  P17.specDesc_succ h n fr

theorem flatMap_filter_branches (h : Heap) (l : List Nat) :
    (l.filter (fun b => !(h.fKids b).isEmpty)).flatMap h.fKids = l.flatMap h.fKids := by
  induction l with
  | nil => rfl
  | cons a l ih =>
    by_cases ha : (h.fKids a).isEmpty
    · have : h.fKids a = [] := by simpa using ha
      simp [ih, this]
    · simp [ha, ih]

theorem specDesc_filter_branches (h : Heap) (n : Nat) (fr : List Nat) :
    h.specDesc n (fr.filter (fun b => !(h.fKids b).isEmpty)) = h.specDesc n fr := by
  cases n with
  | zero => rfl
  | succ n => rw [specDesc_succ, specDesc_succ, flatMap_filter_branches]

theorem loop1_succ (h : Heap) (i fuel : Nat) (hgi : (h.get i).isSome) (l1 to_add : List Nat) :
    Gen.h_descendants.loop1 (fuel + 1) (h.setDesc i (some l1)) i to_add =
      let ch := to_add.flatMap h.fKids
      let br := ch.filter (fun b => !(h.fKids b).isEmpty)
      if br.isEmpty then some (h.setDesc i (some (l1 ++ ch)), br)
      else Gen.h_descendants.loop1 fuel (h.setDesc i (some (l1 ++ ch))) i br := by
  rw [Gen.h_descendants.loop1]
  simp only [List.nil_append, ← List.flatMap_def, fDesc_setDesc, hgi, if_true, setDesc_setDesc, fKids_setDesc]

theorem loop_eq (h : Heap) (i : Nat) (hgi : (h.get i).isSome) (fuel : Nat) :
    ∀ (l1 to_add : List Nat) (r : Heap × List Nat),
      Gen.h_descendants.loop1 fuel (h.setDesc i (some l1)) i to_add = some r →
      r.1 = h.setDesc i (some (l1 ++ h.specDesc fuel to_add)) := by
  induction fuel with
  | zero => intro l1 to_add r hrun; simp [Gen.h_descendants.loop1] at hrun
  | succ n ih =>
    intro l1 to_add r hrun
    rw [loop1_succ h i n hgi] at hrun
    rw [specDesc_succ, ← List.append_assoc, ← specDesc_filter_branches h n]
    simp only at hrun
    split at hrun
    · -- no branches among the children: nothing below them
      rename_i he
      cases hrun
      rw [List.isEmpty_iff.1 he, P17.specDesc_nil, List.append_nil]
    · exact ih _ _ r hrun

/-- the loop ends within the rank budget -/
theorem loop_total (h : Heap) (i : Nat) (hwf : P17.WF h) (rk : Nat → Nat) (hr : P17.RankOK h rk)
    (hgi : (h.get i).isSome) (fuel : Nat) :
    ∀ (l1 to_add : List Nat), 1 ≤ fuel → (∀ b ∈ to_add, b ∈ h.alive ∧ h.size ≤ rk b + fuel) →
      ∃ r, Gen.h_descendants.loop1 fuel (h.setDesc i (some l1)) i to_add = some r := by
  induction fuel with
  | zero => intro _ _ h1; omega
  | succ n ih =>
    intro l1 to_add _ hb
    rw [loop1_succ h i n hgi]
    simp only
    split
    · exact ⟨_, rfl⟩
    · rename_i he
      -- the children are alive and one rank further down
      have hkids : ∀ c ∈ to_add.flatMap h.fKids, c ∈ h.alive ∧ h.size ≤ rk c + n := by
        intro c hc
        obtain ⟨b, hbt, hcb⟩ := List.mem_flatMap.1 hc
        obtain ⟨hba, hbs⟩ := hb b hbt
        obtain ⟨bo, hgb, hcb'⟩ := mem_fKids.1 hcb
        have := hwf.kid_rank hr hba hgb hcb'
        exact ⟨this.1, by omega⟩
      -- and there is one: fuel is left
      obtain ⟨c, hc⟩ := List.exists_mem_of_ne_nil _ (mt List.isEmpty_iff.2 he)
      obtain ⟨hca, hcs⟩ := hkids c (List.mem_filter.1 hc).1
      obtain ⟨co, hgc⟩ := hwf.alive_get c hca
      have := (hr c hca co hgc).1
      exact ih _ _ (by omega) fun b hbm => hkids b (List.mem_filter.1 hbm).1

theorem h_descendants_eq' (h : Heap) (fuel i : Nat) (r : Heap × Option (List Nat))
    (hrun : Gen.h_descendants h fuel i = some r) : Heap.descendants h fuel i = r := by
  unfold Gen.h_descendants at hrun
  unfold Heap.descendants
  cases hg : h.get i with
  | none =>
    -- the generated query fails on an identifier that names no object
    have hd : h.fDesc i = none := by simp [Heap.fDesc, hg]
    have hd' : (h.setDesc i (some [])).fDesc i = none := by simp [fDesc_setDesc, hg]
    cases fuel <;> simp [hd, hd', Gen.h_descendants.loop1] at hrun
  | some o =>
    have hd : h.fDesc i = o.desc := by simp [Heap.fDesc, hg]
    cases hdo : o.desc with
    | some d => simpa [hd, hdo, eq_comm] using hrun
    | none =>
      simp only [hd, hdo, Option.isNone_none, if_true] at hrun ⊢
      cases hl : Gen.h_descendants.loop1 fuel (h.setDesc i (some [])) i [i] with
      | none => simp [hl] at hrun
      | some r' =>
        have h1 := loop_eq h i (by simp [hg]) fuel [] [i] r' hl
        simp only [hl, List.nil_append] at hrun h1
        cases hrun
        rw [h1, fDesc_setDesc]
        simp [hg, Heap.setDesc]

/-- whenever the generated query succeeds it is the model's step (`hi` and `hnoself` are not needed) -/
theorem h_descendants_eq (h : Heap) (fuel i : Nat) (hi : (h.get i).isSome) (r : Heap × Option (List Nat))
    (hrun : Gen.h_descendants h fuel i = some r) (hnoself : ∀ n, i ∉ h.specDesc n [i]) :
    Heap.descendants h fuel i = r :=
  have _ := hi; have _ := hnoself
  h_descendants_eq' h fuel i r hrun

/-- in every well-formed heap with sound caches it succeeds with the fuel the history machine uses -/
theorem h_descendants_total (h : Heap) (i : Nat) (hwf : P17.WF h) (hs : P17.Sound h) (hi : i ∈ h.alive) :
    Gen.h_descendants h h.size i = some (Heap.descendants h h.size i) := by
  have _ := hs
  obtain ⟨rk, hr⟩ := hwf.rank
  obtain ⟨o, hg⟩ := hwf.alive_get i hi
  suffices hsuff : ∃ r, Gen.h_descendants h h.size i = some r by
    obtain ⟨r, hrun⟩ := hsuff
    rw [hrun, h_descendants_eq' h h.size i r hrun]
  unfold Gen.h_descendants
  split
  · obtain ⟨r, hl⟩ := loop_total h i hwf rk hr (by simp [hg]) h.size [] [i] (by simp [Heap.size])
      (by intro b hb; simp at hb; subst hb; exact ⟨hi, by omega⟩)
    simp only [hl]
    exact ⟨_, rfl⟩
  · exact ⟨_, rfl⟩

end GenEq

#print axioms GenEq.h_descendants_eq
#print axioms GenEq.h_descendants_total
