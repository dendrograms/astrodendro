import ADProofs.HeapPrimProofs
import ADGen.Gen
/-!
# ADGen.EquivHeapPrune — the generated object-heap pieces of `prune` equal the model's `Heap.prune`

`Gen.h_reset_cache`, `Gen.h_prune_merge` (+ callees), `Gen.h_prune_reset`, `Gen.h_make_trunk` versus
`Heap.resetCache`, `Heap.mergeWithParent`, `Heap.finishPrune`, `Heap.prune`.

The generated code reads a field of *the* object named by an identifier (`Heap.get`) and writes it to *every* object
with that identifier (`Heap.update`); the model computes the new field from each object separately.  The two agree as
heaps exactly when identifiers name one object: `UniqIds h`.  This is not part of `P17.WF` (which only speaks through
`Heap.get`), so it is an explicit hypothesis; `cex_merge`, `cex_finish` show that it cannot be dropped.
-/

namespace GenEq
open Heap

/-- four writes to one object that together clear its caches, in whatever order the source makes them -/
theorem reset_of_writes {h : Heap} {i : Nat} {f1 f2 f3 f4 : Obj → Obj} (h1 : ∀ o, (f1 o).id = o.id)
    (h2 : ∀ o, (f2 o).id = o.id) (h3 : ∀ o, (f3 o).id = o.id) (hc : ∀ o, f4 (f3 (f2 (f1 o))) = Heap.resetCache o) :
    (((h.update i f1).update i f2).update i f3).update i f4 = h.update i Heap.resetCache := by
  rw [update_update _ _ f1 f2 h1, update_update _ _ (f2 ∘ f1) f3 fun o => (h2 _).trans (h1 o),
    update_update _ _ (f3 ∘ f2 ∘ f1) f4 fun o => (h3 _).trans ((h2 _).trans (h1 o))]
  exact update_congr _ _ _ _ hc

/-- `Structure._reset_cache` -/
theorem h_reset_cache_eq (h : Heap) (i : Nat) : Gen.h_reset_cache h i = h.update i Heap.resetCache :=
  reset_of_writes (fun _ => rfl) (fun _ => rfl) (fun _ => rfl) (fun _ => rfl)

theorem merge_reset_eq (h : Heap) (i : Nat) :
    Gen.h_prune_merge__merge_with_parent__merge__reset_cache h i = h.update i Heap.resetCache :=
  reset_of_writes (fun _ => rfl) (fun _ => rfl) (fun _ => rfl) (fun _ => rfl)

theorem prune_reset_eq (h : Heap) (i : Nat) :
    Gen.h_prune_reset__reset_cache h i = h.update i Heap.resetCache :=
  reset_of_writes (fun _ => rfl) (fun _ => rfl) (fun _ => rfl) (fun _ => rfl)

/-! ## `_merge_with_parent` -/

theorem get_foldl_setParent (p : Nat) (ks : List Nat) (h : Heap) (x : Nat) :
    (ks.foldl (fun h c => h.setParent c (some p)) h).get x =
      if x ∈ ks then (h.get x).map (fun co => { co with parent := some p }) else h.get x :=
  P17.get_foldl_setParent p ks h x

theorem ids_foldl_setParent (p : Nat) (ks : List Nat) (h : Heap) :
    ids (ks.foldl (fun h c => h.setParent c (some p)) h) = ids h :=
  List.foldl_inv ids _ (fun h i => ids_setParent h i (some p)) ks h

theorem alive_foldl_setParent (p : Nat) (ks : List Nat) (h : Heap) :
    (ks.foldl (fun h c => h.setParent c (some p)) h).alive = h.alive :=
  P17.foldl_setParent_alive p ks h

theorem h_prune_merge_eq (h : Heap) (m p : Nat) (hu : UniqIds h) (hp : h.fParent m = some p) (hne : p ≠ m)
    (hk : m ∈ h.fKids p) : Gen.h_prune_merge h m = some (h.mergeWithParent m) := by
  obtain ⟨mo, hgm, hmp⟩ := Option.bind_eq_some_iff.1 hp
  obtain ⟨po, hgp, hmk⟩ := mem_fKids.1 hk
  have hne' : m ≠ p := fun e => hne e.symm
  unfold Gen.h_prune_merge Gen.h_prune_merge__merge_with_parent Gen.h_prune_merge__merge_with_parent__merge
  simp only [hp, merge_reset_eq]
  simp only [Heap.fKids, Heap.fOwn, get_setOwn, get_setKids, get_update_reset, hgm, hgp, hne', if_true, if_false,
    Option.map_some, Option.getD_some, resetCache_kids, List.contains_iff_mem, hmk]
  -- both sides have the identifiers of `h`: compare them object by object, the model's side through `P17.merge_get`
  have hget := fun x => P17.merge_get hgm hmp x
  have hal := P17.merge_alive hgm hmp
  have hids := ids_mergeWithParent h m
  by_cases hemp : mo.kids = []
  · simp only [hemp, List.isEmpty_nil, Bool.not_true, Bool.false_eq_true, if_false, Option.some.injEq]
    refine heap_ext h hu ?_ hids ?_ (fun x => ?_)
    · simp only [ids_delAlive, ids_setKids, ids_update_reset, ids_setOwn]
    · rw [hal]; rfl
    · rw [hget]
      simp only [get_delAlive, get_setKids, get_update_reset, get_setOwn]
      by_cases hxp : x = p
      · subst hxp
        simp [hgp, P17.mergeF, hemp, Heap.resetCache]
      · cases h.get x <;> simp [hxp, P17.mergeF, hemp]
  · have hemp' : mo.kids.isEmpty = false := by simpa using hemp
    simp only [hemp', Bool.not_false, if_true, Option.some.injEq]
    refine heap_ext h hu ?_ hids ?_ (fun x => ?_)
    · simp only [ids_delAlive, ids_foldl_setParent, ids_setKids, ids_update_reset, ids_setOwn]
    · rw [hal]; simp only [alive_delAlive, alive_foldl_setParent, alive_setKids, alive_setOwn, P17.update_alive]
    · rw [hget]
      simp only [get_delAlive, get_foldl_setParent, get_setKids, get_update_reset, get_setOwn]
      by_cases hxp : x = p
      · subst hxp
        by_cases hxk : x ∈ mo.kids <;> simp [hgp, P17.mergeF, hxk, Heap.resetCache]
      · cases h.get x <;> by_cases hxk : x ∈ mo.kids <;> simp [hxp, P17.mergeF, hxk]

/-- the Python raises when `m` has no parent (attribute of `None`) or is not among its parent's children (`list.remove`
    of an absent element) -/
theorem h_prune_merge_none (h : Heap) (m : Nat)
    (hbad : h.fParent m = none ∨ ∃ p, h.fParent m = some p ∧ m ∉ h.fKids p) :
    Gen.h_prune_merge h m = none := by
  unfold Gen.h_prune_merge Gen.h_prune_merge__merge_with_parent Gen.h_prune_merge__merge_with_parent__merge
  rcases hbad with hp | ⟨p, hp, hk⟩
  · simp only [hp]
  · simp only [hp, merge_reset_eq]
    simp only [fKids_update_reset, fKids_setOwn, List.contains_iff_mem, hk, if_false]

theorem get_prune_reset (h : Heap) (x : Nat) :
    (Gen.h_prune_reset h).get x = if x ∈ h.alive then (h.get x).map Heap.resetCache else h.get x := by
  unfold Gen.h_prune_reset
  exact List.foldl_get_update Heap.get (f := Heap.resetCache) _
    (fun h i x => by simp only [prune_reset_eq]; exact get_update_reset h i x) (fun _ => rfl) _ _ _

theorem ids_prune_reset (h : Heap) : ids (Gen.h_prune_reset h) = ids h := by
  unfold Gen.h_prune_reset
  exact List.foldl_inv ids _ (fun h i => by simp only [prune_reset_eq]; exact ids_update_reset h i) _ _

theorem alive_prune_reset (h : Heap) : (Gen.h_prune_reset h).alive = h.alive := by
  unfold Gen.h_prune_reset
  exact List.foldl_inv Heap.alive _ (fun h i => by simp only [prune_reset_eq]; rfl) _ _

theorem get_make_trunk (h : Heap) (x : Nat) :
    (Gen.h_make_trunk h).get x =
      if x ∈ h.alive ∧ (h.fParent x).isNone then (h.get x).map (fun o => { o with lvl := some 0 }) else h.get x := by
  unfold Gen.h_make_trunk
  have := List.foldl_get_update Heap.get (fun h i => h.setLvl i (some 0)) (fun o => { o with lvl := some 0 })
    (fun h i x => get_setLvl h i (some 0) x) (fun _ => rfl) (h.alive.filter (fun s => (h.fParent s).isNone)) h x
  simpa only [List.mem_filter] using this

theorem ids_make_trunk (h : Heap) : ids (Gen.h_make_trunk h) = ids h := by
  unfold Gen.h_make_trunk
  exact List.foldl_inv ids _ (fun h i => ids_setLvl h i (some 0)) _ _

theorem alive_make_trunk (h : Heap) : (Gen.h_make_trunk h).alive = h.alive := by
  unfold Gen.h_make_trunk
  exact List.foldl_inv Heap.alive _ (fun h i => alive_setLvl h i (some 0)) _ _

/-- the cache reset of all survivors followed by the trunk seeding of `_make_trunk` is the model's `finishPrune`
    (both loops are idempotent: `alive` need not be duplicate-free) -/
theorem h_prune_finish_eq' (h : Heap) (hu : UniqIds h) :
    Gen.h_make_trunk (Gen.h_prune_reset h) = h.finishPrune := by
  refine heap_ext h hu ?_ (ids_finishPrune h) ?_ (fun x => ?_)
  · rw [ids_make_trunk, ids_prune_reset]
  · rw [alive_make_trunk, alive_prune_reset]; rfl
  · rw [P17.finishPrune_get, get_make_trunk]
    simp only [alive_prune_reset, Heap.fParent, get_prune_reset]
    cases hg : h.get x with
    | none => simp
    | some o =>
      cases P17.get_id hg
      by_cases hx : o.id ∈ h.alive
      · cases hpar : o.parent <;> simp [hx, P17.finishF, hpar, Heap.resetCache]
      · simp [hx, P17.finishF]

/-- the same with the hypothesis `hnd`, which is not needed -/
theorem h_prune_finish_eq (h : Heap) (hu : UniqIds h) (hnd : h.alive.Nodup) :
    Gen.h_make_trunk (Gen.h_prune_reset h) = h.finishPrune :=
  have _ := hnd
  h_prune_finish_eq' h hu

theorem h_prune_merge_legal (h : Heap) (m : Nat) (hu : UniqIds h) (hwf : P17.WF h) (hm : m ∈ h.alive)
    (hp : (h.get m).bind (·.parent) ≠ none) : Gen.h_prune_merge h m = some (h.mergeWithParent m) := by
  obtain ⟨p, hmp⟩ := Option.ne_none_iff_exists'.mp hp
  obtain ⟨mo, hgm, hmp'⟩ := Option.bind_eq_some_iff.1 hmp
  obtain ⟨_, po, hgp, hmk⟩ := hwf.parent_ok m hm mo hgm p hmp'
  refine h_prune_merge_eq h m p hu hmp (fun e => hwf.parent_ne hm hgm (e ▸ hmp')) ?_
  simp [Heap.fKids, hgp, hmk]

/-- `prune` on the object heap, put together by hand from the generated pieces: the body of `for m in merge:` for each
    `m` in turn (`none` as soon as one raises), then the reset loop and `_make_trunk` -/
def genPrune (h : Heap) (ms : List Nat) : Option Heap :=
  (ms.foldlM (fun h m => Gen.h_prune_merge h m) h).map (fun h => Gen.h_make_trunk (Gen.h_prune_reset h))

theorem foldlM_merge {h : Heap} {ms : List Nat} (hu : UniqIds h) (hwf : P17.WF h) (hl : P17.Legal h ms) :
    ms.foldlM (fun h m => Gen.h_prune_merge h m) h = some (ms.foldl Heap.mergeWithParent h) := by
  induction hl with
  | nil h => rfl
  | cons hm hp _ ih =>
    rw [List.foldlM_cons, h_prune_merge_legal _ _ hu hwf hm hp]
    exact ih (hu.of_ids (ids_mergeWithParent _ _)) (P17.mergeWithParent_wf _ _ hwf hm hp)

/-- generated are the three pieces; that `prune` runs them in this order is written by hand, in `GenEq.genPrune` -/
theorem h_prune_eq (h : Heap) (ms : List Nat) (hu : UniqIds h) (hwf : P17.WF h) (hl : P17.Legal h ms) :
    genPrune h ms = some (h.prune ms) := by
  unfold genPrune Heap.prune
  rw [foldlM_merge hu hwf hl, Option.map_some,
    h_prune_finish_eq' _ (hu.of_ids (List.foldl_inv ids _ ids_mergeWithParent ms h))]

/-- a well-formed, sound heap (`GenEq.cex_wf`, `GenEq.cex_sound`) in which the identifier `0` names a second object,
    shadowed and unreachable through `get` -/
def cex : Heap :=
  { objs := [ { id := 0, kids := [1], own := [5], lvl := some 0 }, { id := 1, parent := some 0 },
              { id := 0, parent := some 7, own := [6] } ], alive := [0, 1] }

theorem cex_wf : P17.WF cex := .of_links (.of_rank id (by decide +kernel))

theorem cex_sound : P17.Sound cex := P17.sound_of_seeded (by decide +kernel)

/-- `h_prune_merge_eq` without `UniqIds`: all its other hypotheses hold, the heaps differ (the shadowed object gets the
    `_values` of the first one in the generated code, its own extended in the model) -/
theorem cex_merge : cex.fParent 1 = some 0 ∧ 0 ≠ 1 ∧ 1 ∈ cex.fKids 0 ∧
    (Gen.h_prune_merge cex 1).map (·.objs) ≠ some (cex.mergeWithParent 1).objs := by decide +kernel

/-- `h_prune_finish_eq` without `UniqIds` (the shadowed object has a parent, the first one has none) -/
theorem cex_finish : cex.alive.Nodup ∧
    (Gen.h_make_trunk (Gen.h_prune_reset cex)).objs ≠ cex.finishPrune.objs := by decide +kernel

/-- `h_prune_eq` without `UniqIds` -/
theorem cex_prune : P17.Legal cex [1] ∧ (genPrune cex [1]).map (·.objs) ≠ some (cex.prune [1]).objs := by
  simp only [P17.legal_cons, P17.Legal.nil]; decide +kernel

/-- non-vacuity: the witness heap of `CacheProofs` has unique identifiers -/
example : UniqIds P17.h0 ∧ P17.WF P17.h0 ∧ P17.Sound P17.h0 := ⟨h0_uniqIds, P17.h0_wf, P17.h0_sound⟩

end GenEq

#print axioms GenEq.h_reset_cache_eq
#print axioms GenEq.h_prune_merge_eq
#print axioms GenEq.h_prune_merge_none
#print axioms GenEq.h_prune_finish_eq
#print axioms GenEq.h_prune_eq
