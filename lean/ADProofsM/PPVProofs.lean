import ADModel.PPV
import ADProofsM.MomentProofs
/-!
# ADProofsM.PPVProofs — PP/PPV axis conventions (C11)

`PPV.toV0 vaxis` lists the coordinates of every point as velocity, first sky axis, second sky axis
(`σ`); the moments of the transposed data are therefore the moments of the original data at the
re-indexed axes, and every PPV statistic is a moment at `vaxis` or at `PPV.skyAxes vaxis`.
The sky block is positive semi-definite by a weighted Cauchy–Schwarz inequality.
-/
open Mom

namespace P13

def T (vaxis : Nat) (p : Pt) : Pt :=
  let c := fun i => p.pos.getD i 0
  { p with pos := match vaxis with
    | 0 => [c 0, c 1, c 2]
    | 1 => [c 1, c 0, c 2]
    | _ => [c 2, c 0, c 1] }

/-- the index permutation: coordinate `k` of the transposed point is coordinate `σ vaxis k`
    of the original one -/
def σ (vaxis : Nat) : Nat → Nat
  | 0 => vaxis
  | 1 => (PPV.skyAxes vaxis).1
  | _ => (PPV.skyAxes vaxis).2

theorem toV0_eq (vaxis : Nat) (ps : List Pt) : PPV.toV0 vaxis ps = ps.map (T vaxis) := rfl

theorem T_w (vaxis : Nat) (p : Pt) : (T vaxis p).w = p.w := rfl

theorem T_pos (vaxis : Nat) (hv : vaxis ≤ 2) (p : Pt) :
    (T vaxis p).pos = [coord p (σ vaxis 0), coord p (σ vaxis 1), coord p (σ vaxis 2)] := by
  match vaxis with
  | 0 | 1 | 2 => rfl

theorem coord_T (vaxis : Nat) (hv : vaxis ≤ 2) (k : Nat) (hk : k ≤ 2) (p : Pt) :
    coord (T vaxis p) k = coord p (σ vaxis k) := by
  rw [coord, T_pos vaxis hv]
  match k with
  | 0 | 1 | 2 => rfl

theorem sumBy_congr (f g : Pt → Rat) (ps : List Pt) (h : ∀ p ∈ ps, f p = g p) :
    sumBy f ps = sumBy g ps :=
  P11.sumBy_congr h

theorem mom0_toV0 (vaxis : Nat) (ps : List Pt) : mom0 (PPV.toV0 vaxis ps) = mom0 ps :=
  P11.sumBy_map _ _ ps

theorem mom1_toV0 (vaxis : Nat) (hv : vaxis ≤ 2) (k : Nat) (hk : k ≤ 2) (ps : List Pt) :
    mom1 (PPV.toV0 vaxis ps) k = mom1 ps (σ vaxis k) := by
  unfold mom1
  rw [mom0_toV0, toV0_eq, P11.sumBy_map]
  simp only [T_w, coord_T vaxis hv k hk]

theorem mom2_toV0 (vaxis : Nat) (hv : vaxis ≤ 2) (k l : Nat) (hk : k ≤ 2) (hl : l ≤ 2)
    (ps : List Pt) :
    mom2 (PPV.toV0 vaxis ps) k l = mom2 ps (σ vaxis k) (σ vaxis l) := by
  unfold mom2
  rw [mom0_toV0, mom1_toV0 vaxis hv k hk, mom1_toV0 vaxis hv l hl, toV0_eq, P11.sumBy_map]
  simp only [T_w, coord_T vaxis hv k hk, coord_T vaxis hv l hl]

theorem cen_eq (ps : List Pt) (vaxis : Nat) (hv : vaxis ≤ 2) :
    PPV.xCen ps vaxis = mom1 ps (PPV.skyAxes vaxis).2 ∧
    PPV.yCen ps vaxis = mom1 ps (PPV.skyAxes vaxis).1 := by
  match vaxis with
  | 0 | 1 | 2 => exact ⟨rfl, rfl⟩

theorem embedOld_ok_vaxis0 (a : Rat × Rat) : PPV.embedOld 0 a = PPV.embed 0 a := by
  simp [PPV.embedOld, PPV.embed]

theorem psd_form (A B C x y : Rat) (hA : 0 ≤ A) (hC : 0 ≤ C) (hdet : B * B ≤ A * C) :
    0 ≤ A * (y * y) - 2 * B * (x * y) + C * (x * x) := by
  rcases hA.lt_or_eq with hpos | rfl
  · -- `A` times the form is a sum of two non-negative terms
    have key : A * (A * (y * y) - 2 * B * (x * y) + C * (x * x))
        = (A * y - B * x) * (A * y - B * x) + (A * C - B * B) * (x * x) := by ring
    refine nonneg_of_mul_nonneg_right ?_ hpos
    rw [key]
    exact add_nonneg (mul_self_nonneg _) (mul_nonneg (sub_nonneg.mpr hdet) (mul_self_nonneg x))
  · rw [zero_mul] at hdet
    rw [mul_self_eq_zero.mp (le_antisymm hdet (mul_self_nonneg B))]
    simp only [zero_mul, mul_zero, sub_zero, zero_add]
    exact mul_nonneg hC (mul_self_nonneg x)

theorem cs_step (A B C u x y : Rat) (hA : 0 ≤ A) (hC : 0 ≤ C) (hdet : B * B ≤ A * C)
    (hu : 0 ≤ u) :
    (u * x * y + B) * (u * x * y + B) ≤ (u * x * x + A) * (u * y * y + C) := by
  have key : (u * x * x + A) * (u * y * y + C) - (u * x * y + B) * (u * x * y + B)
      = (A * C - B * B) + u * (A * (y * y) - 2 * B * (x * y) + C * (x * x)) := by ring
  rw [← sub_nonneg, key]
  exact add_nonneg (sub_nonneg.mpr hdet) (mul_nonneg hu (psd_form A B C x y hA hC hdet))

/-- `(Σ u f g)² ≤ (Σ u f²) (Σ u g²)` for weights `u ≥ 0`, point by point: the sums over the points so far are a
    positive semi-definite matrix `[[A, B], [B, C]]`, and a further point keeps it so (`cs_step`) -/
theorem cauchy_schwarz (u f g : Pt → Rat) (ps : List Pt) (hu : ∀ p ∈ ps, 0 ≤ u p) :
    sumBy (fun p => u p * f p * g p) ps * sumBy (fun p => u p * f p * g p) ps
      ≤ sumBy (fun p => u p * f p * f p) ps * sumBy (fun p => u p * g p * g p) ps := by
  induction ps with
  | nil => exact le_refl _
  | cons p ps ih =>
    have hu' := fun q hq => hu q (List.mem_cons_of_mem p hq)
    exact cs_step _ _ _ _ _ _ (P11.sumBy_mul_self_nonneg f hu') (P11.sumBy_mul_self_nonneg g hu')
      (ih hu') (hu p List.mem_cons_self)

end P13
