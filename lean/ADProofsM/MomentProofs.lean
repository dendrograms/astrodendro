import ADModel.Moments
import ADProofs.ListLemmas
import Mathlib.Tactic.Ring
import Mathlib.Algebra.BigOperators.Ring.List
import Mathlib.Algebra.Order.Field.Rat

/-!
# ADProofsM.MomentProofs — intensity-weighted moments are the mathematical moments (C10)

`Mom.sumBy f ps` is the `List.sum` of `ps.map f`, hence linear in `f`: a statement about `mom0`,
`mom1`, `mom2` or `quad` (all in `ADModel/Moments.lean`, over exact rationals) is linearity of
`sumBy` plus an identity of rationals at each point.  In particular the quadratic form of the
second moment is a weighted sum of squares (`quad_eq_sum_sq`).
-/

namespace P11

open Mom

@[simp] theorem sumBy_nil (f : Pt → Rat) : sumBy f [] = 0 := rfl

@[simp] theorem sumBy_cons (f : Pt → Rat) (p : Pt) (ps : List Pt) :
    sumBy f (p :: ps) = f p + sumBy f ps := rfl

theorem sumBy_eq_sum (f : Pt → Rat) (ps : List Pt) : sumBy f ps = (ps.map f).sum := by
  induction ps with
  | nil => rfl
  | cons p ps ih => simp [ih]

theorem sumBy_congr {f g : Pt → Rat} {ps : List Pt} (h : ∀ p ∈ ps, f p = g p) :
    sumBy f ps = sumBy g ps := by
  rw [sumBy_eq_sum, sumBy_eq_sum, List.map_congr_left h]

theorem sumBy_zero (ps : List Pt) : sumBy (fun _ => 0) ps = 0 := by
  rw [sumBy_eq_sum, List.sum_map_zero]

theorem sumBy_add (f g : Pt → Rat) (ps : List Pt) :
    sumBy (fun p => f p + g p) ps = sumBy f ps + sumBy g ps := by
  simp only [sumBy_eq_sum, List.sum_map_add]

theorem sumBy_mul_left (c : Rat) (f : Pt → Rat) (ps : List Pt) :
    sumBy (fun p => c * f p) ps = c * sumBy f ps := by
  simp only [sumBy_eq_sum, List.sum_map_mul_left]

theorem sumBy_mul_right (c : Rat) (f : Pt → Rat) (ps : List Pt) :
    sumBy (fun p => f p * c) ps = sumBy f ps * c := by
  simp only [sumBy_eq_sum, List.sum_map_mul_right]

theorem sumBy_sub (f g : Pt → Rat) (ps : List Pt) :
    sumBy (fun p => f p - g p) ps = sumBy f ps - sumBy g ps := by
  rw [eq_sub_iff_add_eq, ← sumBy_add]
  exact sumBy_congr fun p _ => sub_add_cancel _ _

theorem sumBy_div_right (c : Rat) (f : Pt → Rat) (ps : List Pt) :
    sumBy (fun p => f p / c) ps = sumBy f ps / c := by
  simp only [div_eq_mul_inv]; exact sumBy_mul_right _ _ _

theorem sumBy_append (f : Pt → Rat) (a b : List Pt) :
    sumBy f (a ++ b) = sumBy f a + sumBy f b := by
  simp only [sumBy_eq_sum, List.map_append, List.sum_append]

theorem sumBy_const (c : Rat) (ps : List Pt) :
    sumBy (fun _ => c) ps = (count ps : Rat) * c := by
  rw [sumBy_eq_sum, List.map_const', List.sum_replicate, nsmul_eq_mul, count]

theorem sumBy_const_mul_w (c : Rat) (ps : List Pt) :
    sumBy (fun p => c * p.w) ps = c * mom0 ps := sumBy_mul_left c _ ps

theorem sumBy_map (f : Pt → Rat) (h : Pt → Pt) (ps : List Pt) :
    sumBy f (ps.map h) = sumBy (fun p => f (h p)) ps := by
  simp only [sumBy_eq_sum, List.map_map, Function.comp_def]

theorem sumBy_nonneg {f : Pt → Rat} {ps : List Pt} (h : ∀ p ∈ ps, 0 ≤ f p) :
    0 ≤ sumBy f ps := by
  induction ps with
  | nil => exact le_refl _
  | cons p ps ih =>
    exact add_nonneg (h p List.mem_cons_self) (ih fun q hq => h q (List.mem_cons_of_mem p hq))

theorem sumBy_mul_self_nonneg {u : Pt → Rat} (h : Pt → Rat) {ps : List Pt} (hu : ∀ p ∈ ps, 0 ≤ u p) :
    0 ≤ sumBy (fun p => u p * h p * h p) ps :=
  sumBy_nonneg fun p hp => by rw [mul_assoc]; exact mul_nonneg (hu p hp) (mul_self_nonneg _)

-- `Mom.translate` has no name for the translated point: the two lemmas spell it as its body does
theorem coord_translate (t : List Rat) (p : Pt) (i : Nat) (hi : i < p.pos.length) :
    coord { p with pos := (List.range p.pos.length).map fun i => p.pos.getD i 0 + t.getD i 0 } i
      = coord p i + t.getD i 0 := by
  rw [coord, List.getD_eq_getElem?_getD, List.getElem?_map, List.getElem?_range hi]; rfl

theorem sumBy_translate (t : List Rat) (ps : List Pt) (nd : Nat)
    (hlen : ∀ p ∈ ps, p.pos.length = nd) (F : Pt → Rat) (G : Pt → Rat)
    (hFG : ∀ p : Pt, p.pos.length = nd →
      F { p with pos := (List.range p.pos.length).map fun i => p.pos.getD i 0 + t.getD i 0 } = G p) :
    sumBy F (translate t ps) = sumBy G ps := by
  unfold translate
  rw [sumBy_map]
  exact sumBy_congr (fun p hp => hFG p (hlen p hp))

theorem foldr_add_eq_sum (l : List Rat) : l.foldr (· + ·) 0 = l.sum := rfl

theorem sum_sumBy_exchange {α : Type} (L : List α) (F : α → Pt → Rat) (ps : List Pt) :
    (L.map fun a => sumBy (F a) ps).sum = sumBy (fun p => (L.map fun a => F a p).sum) ps := by
  induction L with
  | nil => exact (sumBy_zero ps).symm
  | cons a L ih => simp only [List.map_cons, List.sum_cons, ih, sumBy_add]

/-- general bilinear form of the second moment: `u M vᵀ` as a weighted sum of products -/
theorem bilin_eq_sum (ps : List Pt) (L1 L2 : List Nat) (u v : Nat → Rat) :
    (L1.map fun i => (L2.map fun j => u i * mom2 ps i j * v j).sum).sum
      = sumBy (fun p => (p.w / mom0 ps)
          * ((L1.map fun i => u i * (coord p i - mom1 ps i)).sum
              * (L2.map fun j => v j * (coord p j - mom1 ps j)).sum)) ps := by
  unfold mom2
  -- move the coefficients and both index sums under `sumBy`, then compare point by point
  simp only [← sumBy_mul_left, ← sumBy_mul_right, sum_sumBy_exchange]
  refine sumBy_congr fun p _ => ?_
  rw [← List.sum_map_mul_right, ← List.sum_map_mul_left]
  refine congrArg List.sum (List.map_congr_left fun i _ => ?_)
  rw [← List.sum_map_mul_left, ← List.sum_map_mul_left]
  refine congrArg List.sum (List.map_congr_left fun j _ => ?_)
  ring

/-- `w M wᵀ = Σ (p.w / mom0) · (w · (x_p − mom1))²`: `bilin_eq_sum` with both vectors `w` -/
theorem quad_eq_sum_sq (ps : List Pt) (nd : Nat) (w : List Rat) :
    Mom.quad ps nd w = Mom.sumBy (fun p => (p.w / Mom.mom0 ps)
      * (((List.range nd).map fun i => w.getD i 0 * (Mom.coord p i - Mom.mom1 ps i)).foldr (· + ·) 0) ^ 2) ps := by
  unfold quad
  simp only [foldr_add_eq_sum]
  rw [bilin_eq_sum ps (List.range nd) (List.range nd) (fun i => w.getD i 0) (fun j => w.getD j 0)]
  apply sumBy_congr; intro p _
  ring

theorem weight_nonneg {ps : List Pt} (hw : ∀ p ∈ ps, 0 ≤ p.w) (hpos : 0 < mom0 ps) :
    ∀ p ∈ ps, 0 ≤ p.w / mom0 ps :=
  fun p hp => div_nonneg (hw p hp) hpos.le

theorem mom2_diag_nonneg (ps : List Pt) (i : Nat)
    (hw : ∀ p ∈ ps, 0 ≤ p.w) (hpos : 0 < Mom.mom0 ps) : 0 ≤ Mom.mom2 ps i i :=
  sumBy_mul_self_nonneg _ (weight_nonneg hw hpos)

theorem dot_map_mul (c : Rat) (a b : List Rat) :
    dot (a.map (c * ·)) (b.map (c * ·)) = c * c * dot a b := by
  induction a generalizing b with
  | nil => exact (mul_zero _).symm
  | cons x xs ih =>
    cases b with
    | nil => exact (mul_zero _).symm
    | cons y ys => rw [List.map_cons, List.map_cons, dot, ih, dot, mul_mul_mul_comm, mul_add]

theorem getD_map_mul (c : Rat) (w : List Rat) (i : Nat) :
    (w.map (c * ·)).getD i 0 = c * w.getD i 0 := by
  rw [List.getD_eq_getElem?_getD, List.getElem?_map, List.getD_eq_getElem?_getD]
  cases w[i]? with
  | none => exact (mul_zero c).symm
  | some x => rfl

theorem quad_map_mul (ps : List Pt) (nd : Nat) (w : List Rat) (c : Rat) :
    quad ps nd (w.map (c * ·)) = c * c * quad ps nd w := by
  unfold quad
  simp only [foldr_add_eq_sum, getD_map_mul]
  rw [← List.sum_map_mul_left]
  refine congrArg List.sum (List.map_congr_left fun i _ => ?_)
  rw [← List.sum_map_mul_left]
  refine congrArg List.sum (List.map_congr_left fun j _ => ?_)
  ring

theorem mom2Along_map_mul (ps : List Pt) (nd : Nat) (w : List Rat) (c : Rat)
    (hc : c ≠ 0) :
    Mom.mom2Along ps nd (w.map (c * ·)) = Mom.mom2Along ps nd w := by
  unfold mom2Along
  rw [quad_map_mul, dot_map_mul]
  exact mul_div_mul_left _ _ (mul_ne_zero hc hc)

/-- `mom2Along_map_mul` under the hypotheses that `w` is a direction of the right dimension; it holds without them,
    since where `dot w w = 0` both sides are a division by zero -/
theorem mom2Along_scale_invariant (ps : List Pt) (nd : Nat) (w : List Rat) (c : Rat)
    (hc : c ≠ 0) (_hw : Mom.dot w w ≠ 0) (_hlen : w.length = nd) :
    Mom.mom2Along ps nd (w.map (c * ·)) = Mom.mom2Along ps nd w :=
  mom2Along_map_mul ps nd w c hc

theorem mom2Along_neg (ps : List Pt) (nd : Nat) (w : List Rat) :
    Mom.mom2Along ps nd (w.map ((-1 : Rat) * ·)) = Mom.mom2Along ps nd w :=
  mom2Along_map_mul ps nd w (-1) (by decide)

theorem dot_map_map (L : List Nat) (f g : Nat → Rat) :
    dot (L.map f) (L.map g) = (L.map fun a => f a * g a).sum := by
  induction L with
  | nil => rfl
  | cons a L ih => simp only [List.map_cons, dot, ih, List.sum_cons]

theorem sum_range_ite (n i : Nat) (h : Nat → Rat) :
    ((List.range n).map fun a => if a = i then h a else 0).sum = if i < n then h i else 0 := by
  induction n with
  | zero => rfl
  | succ n ih =>
    rw [List.range_succ, List.map_append, List.sum_append, ih, List.map_singleton, List.sum_singleton]
    rcases Nat.lt_trichotomy i n with hi | rfl | hi
    · rw [if_pos hi, if_neg (Nat.ne_of_gt hi), if_pos (Nat.lt_succ_of_lt hi), add_zero]
    · rw [if_neg (Nat.lt_irrefl i), if_pos rfl, if_pos (Nat.lt_succ_self i), zero_add]
    · rw [if_neg (Nat.lt_asymm hi), if_neg (Nat.ne_of_lt hi), if_neg (Nat.not_lt.mpr hi), add_zero]

theorem basis_getD (nd i a : Nat) (hi : i < nd) :
    ((List.range nd).map fun j => if j = i then (1 : Rat) else 0).getD a 0
      = if a = i then 1 else 0 := by
  rw [List.getD_eq_getElem?_getD, List.getElem?_map]
  by_cases ha : a < nd
  · rw [List.getElem?_range ha]; rfl
  · rw [List.getElem?_eq_none (by rw [List.length_range]; omega), if_neg (by omega)]; rfl

theorem mom2Along_basis (ps : List Pt) (nd : Nat) (i : Nat) (hi : i < nd) :
    Mom.mom2Along ps nd ((List.range nd).map fun j => if j = i then (1 : Rat) else 0)
      = Mom.mom2 ps i i := by
  have hd : dot ((List.range nd).map fun j => if j = i then (1 : Rat) else 0)
      ((List.range nd).map fun j => if j = i then (1 : Rat) else 0) = 1 := by
    rw [dot_map_map]
    simp only [← ite_and, and_self, mul_ite, mul_one, mul_zero]
    rw [sum_range_ite nd i fun _ => 1, if_pos hi]
  unfold mom2Along
  rw [hd, div_one, quad_eq_sum_sq]
  unfold mom2
  -- in the sum-of-squares form of `quad` the inner sum keeps only its `i`-th term
  apply sumBy_congr; intro p _
  simp only [foldr_add_eq_sum, basis_getD nd i _ hi, ite_mul, one_mul, zero_mul,
    sum_range_ite nd i fun a => coord p a - mom1 ps a, if_pos hi]
  ring

def insertDesc (x : Rat) : List Rat → List Rat
  | [] => [x]
  | y :: ys => if x ≥ y then x :: y :: ys else y :: insertDesc x ys

/-- the eigenvalues in the order `np.argsort(w)[::-1]` of `paxes` (analysis.py:165-167) -/
def sortDesc : List Rat → List Rat
  | [] => []
  | x :: xs => insertDesc x (sortDesc xs)

theorem sortDesc_isSort : IsInsertSort (· ≥ ·) insertDesc sortDesc :=
  ⟨fun _ => rfl, fun _ _ _ => rfl, rfl, fun _ _ => rfl⟩

theorem sortDesc_perm (l : List Rat) : (sortDesc l).Perm l := sortDesc_isSort.perm l

theorem sortDesc_sorted (l : List Rat) : (sortDesc l).Pairwise (· ≥ ·) :=
  sortDesc_isSort.sorted (fun a b => le_total b a) (fun _ _ _ hab hbc => le_trans hbc hab) l

theorem sortDesc_length (l : List Rat) : (sortDesc l).length = l.length :=
  (sortDesc_perm l).length_eq

end P11
