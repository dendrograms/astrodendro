import ADModel.PPV
import Mathlib.Tactic.Linarith
import Mathlib.Algebra.Order.Field.Rat
/-!
# ADProofsM.WrapProofs — the catalog's edge-wrap heuristic (C12)

`Catalog.ptp xs` is the largest difference between two members of `xs`; every statement about
`Catalog.wrapAxis` compares such differences before and after the candidate re-indexing `wrapF`.
Namespace `P29` is about the natural coordinates a structure occupies along a non-periodic axis.
-/

namespace P13

open Catalog

-- `rfl`: `maxQ (a :: as)` is the fold that `(a :: as).max?` unfolds to, and likewise for `minQ`
theorem maxQ_spec {xs : List Rat} (hne : xs ≠ []) : maxQ xs ∈ xs ∧ ∀ x ∈ xs, x ≤ maxQ xs := by
  cases xs with
  | nil => exact absurd rfl hne
  | cons a as => exact List.max?_eq_some_iff.mp rfl

theorem minQ_spec {xs : List Rat} (hne : xs ≠ []) : minQ xs ∈ xs ∧ ∀ x ∈ xs, minQ xs ≤ x := by
  cases xs with
  | nil => exact absurd rfl hne
  | cons a as => exact List.min?_eq_some_iff.mp rfl

theorem sub_le_ptp {xs : List Rat} {a b : Rat} (ha : a ∈ xs) (hb : b ∈ xs) : a - b ≤ ptp xs :=
  sub_le_sub ((maxQ_spec (List.ne_nil_of_mem ha)).2 a ha) ((minQ_spec (List.ne_nil_of_mem ha)).2 b hb)

theorem ptp_le {xs : List Rat} {c : Rat} (hne : xs ≠ []) (h : ∀ a ∈ xs, ∀ b ∈ xs, a - b ≤ c) :
    ptp xs ≤ c :=
  h _ (maxQ_spec hne).1 _ (minQ_spec hne).1

theorem ptp_nonneg (xs : List Rat) : 0 ≤ ptp xs := by
  cases xs with
  | nil => simp [ptp, maxQ, minQ]
  | cons a as => exact sub_self a ▸ sub_le_ptp List.mem_cons_self List.mem_cons_self

/-- the candidate re-indexing `where(i < n/2, i + n, i)` -/
def wrapF (n : Nat) (x : Rat) : Rat := if 2 * x < (n : Rat) then x + n else x

theorem wrapAxis_def (n : Nat) (xs : List Rat) :
    wrapAxis n xs = if ptp (xs.map (wrapF n)) < ptp xs then xs.map (wrapF n) else xs := rfl

theorem wrapF_low {n : Nat} {x : Rat} (h : 2 * x < (n:Rat)) : wrapF n x = x + n := if_pos h

theorem wrapF_high {n : Nat} {x : Rat} (h : ¬ 2 * x < (n:Rat)) : wrapF n x = x := if_neg h

theorem wrapF_sub_le (n : Nat) {xs : List Rat} {a b : Rat} (ha : a ∈ xs) (hb : b ∈ xs) :
    wrapF n a - wrapF n b ≤ ptp (xs.map (wrapF n)) :=
  sub_le_ptp (List.mem_map_of_mem ha) (List.mem_map_of_mem hb)

theorem le_wrapF (n : Nat) (x : Rat) : x ≤ wrapF n x := by
  unfold wrapF; split
  · exact le_add_of_nonneg_right (Nat.cast_nonneg n)
  · exact le_refl x

/-- The heuristic leaves `xs` alone if, whenever `xs` has members on both sides of the middle, some
    low `l'` and high `u'` are at least as far apart across the edge (`l' + n - u'`) as `xs` is
    wide.  A list on one side of the middle satisfies `h` vacuously. -/
theorem wrapAxis_noop (n : Nat) (xs : List Rat)
    (h : ∀ l ∈ xs, ∀ u ∈ xs, 2 * l < (n:Rat) → ¬ 2 * u < (n:Rat) →
      ∃ l' ∈ xs, ∃ u' ∈ xs, 2 * l' < (n:Rat) ∧ ¬ 2 * u' < (n:Rat) ∧ ptp xs ≤ l' + n - u') :
    wrapAxis n xs = xs := by
  refine (wrapAxis_def n xs).trans (if_neg (not_lt.mpr ?_))
  by_cases hne : xs = []
  · subst hne; exact le_refl _
  -- every difference `a - b` within `xs` is at most one within the candidate
  refine ptp_le hne fun a ha b hb => ?_
  have hab := wrapF_sub_le n ha hb
  by_cases hb' : 2 * b < (n:Rat)
  · by_cases ha' : 2 * a < (n:Rat)
    · rw [wrapF_low ha', wrapF_low hb', add_sub_add_right_eq_sub] at hab
      exact hab
    · -- `a` high, `b` low: the only pair that the candidate brings closer
      obtain ⟨l, hl, u, hu, hl', hu', hp⟩ := h b hb a ha hb' ha'
      have hlu := wrapF_sub_le n hl hu
      rw [wrapF_low hl', wrapF_high hu'] at hlu
      exact (sub_le_ptp ha hb).trans (hp.trans hlu)
  · rw [wrapF_high hb'] at hab
    exact (sub_le_sub_right (le_wrapF n a) b).trans hab

theorem wrapAxis_noop_of_ptp_lt (n : Nat) (xs : List Rat)
    (hint : Catalog.ptp xs < (n:Rat) / 2) : Catalog.wrapAxis n xs = xs :=
  wrapAxis_noop n xs fun l hl u hu h1 h2 =>
    ⟨l, hl, u, hu, h1, h2, by linarith [sub_le_ptp hu hl]⟩

/-- `wrapAxis_noop_of_ptp_lt` for indices within the axis; it holds for any rationals -/
theorem wrapAxis_noop_of_narrow (n : Nat) (xs : List Rat) (_h : ∀ x ∈ xs, 0 ≤ x ∧ x < n)
    (hint : Catalog.ptp xs < (n:Rat) / 2) : Catalog.wrapAxis n xs = xs :=
  wrapAxis_noop_of_ptp_lt n xs hint

end P13

namespace P29

open Catalog

def IsInterval (xs : List Nat) : Prop := ∀ a ∈ xs, ∀ b ∈ xs, ∀ c, a ≤ c → c ≤ b → c ∈ xs

/-- `h` holds of the projection of a connected pixel set on a non-periodic axis, which moves by at most one per
    step -/
theorem isInterval_of_succ_closed (xs : List Nat)
    (h : ∀ a ∈ xs, ∀ b ∈ xs, a < b → a + 1 ∈ xs) : IsInterval xs := by
  intro a ha b hb c hac
  induction c, hac using Nat.le_induction with
  | base => exact fun _ => ha
  | succ c _ ih => exact fun hcb => h c (ih (Nat.le_of_succ_le hcb)) b hb hcb

theorem isInterval_iff_succ_closed (xs : List Nat) :
    IsInterval xs ↔ ∀ a ∈ xs, ∀ b ∈ xs, a < b → a + 1 ∈ xs :=
  ⟨fun hi a ha b hb hab => hi a ha b hb (a + 1) (Nat.le_succ a) hab, isInterval_of_succ_closed xs⟩

theorem crossing {P : Nat → Prop} {a b : Nat} (hab : a ≤ b) (ha : P a) (hb : ¬ P b) :
    ∃ m, a ≤ m ∧ m + 1 ≤ b ∧ P m ∧ ¬ P (m + 1) := by
  induction b, hab using Nat.le_induction with
  | base => exact absurd ha hb
  | succ b hab ih =>
    by_cases h : P b
    · exact ⟨b, hab, Nat.le_refl _, h, hb⟩
    · obtain ⟨m, h1, h2, h3⟩ := ih h
      exact ⟨m, h1, Nat.le_succ_of_le h2, h3⟩

theorem ptp_le_of_range (n : Nat) (xs : List Nat) (hne : xs ≠ []) (hr : ∀ x ∈ xs, x < n) :
    ptp (xs.map (fun (x : Nat) => (x : Rat))) ≤ (n : Rat) - 1 := by
  refine P13.ptp_le (by simpa using hne) fun a' ha' b' hb' => ?_
  obtain ⟨a, ha, rfl⟩ := List.mem_map.mp ha'
  obtain ⟨b, -, rfl⟩ := List.mem_map.mp hb'
  have h1 : (a : Rat) + 1 ≤ (n : Rat) := by exact_mod_cast hr a ha
  have h2 : (0 : Rat) ≤ (b : Rat) := Nat.cast_nonneg b
  linarith

end P29
