import ADProofs.FluxTable
import Mathlib.Tactic.Ring
import Mathlib.Tactic.FieldSimp
import Mathlib.Algebra.Order.Field.Rat
import Mathlib.Algebra.BigOperators.Ring.List
/-!
# ADProofsM.FluxProofs — flux conversion (C13): the closed form of `Flux.total`

The error table is characterised in `ADProofs/FluxTable.lean` (core Lean); here is the algebra.
-/

namespace P13

theorem sumQ_eq_sum (xs : List Rat) : Flux.sumQ xs = xs.sum := by
  induction xs with
  | nil => rfl
  | cons x xs ih => rw [Flux.sumQ, ih, List.sum_cons]

theorem total_eq (K : Consts) (fam : Family) (m : FMeta) (xs : List Rat) (scale outScale : Rat) :
    Flux.total K fam m xs scale outScale = xs.sum * scale * Flux.factor K m fam / outScale := by
  rw [Flux.total, Flux.totalJy, sumQ_eq_sum, List.sum_map_mul_right, List.map_id']

/-- the `.temp` factor does not depend on the beam -/
theorem temp_beam_cancels (K : Consts) :
    ∀ m m' : FMeta, m.lam = m'.lam → m.pix = m'.pix →
      Flux.factor K m .temp = Flux.factor K m' .temp := by
  intro m m' h1 h2
  simp only [Flux.factor, h1, h2]

theorem outcome_missing_spatial (md : Flux.MetaDims) (output : Flux.Dim)
    (h : md.spatial = none) :
    Flux.outcome .surf md output = .spatialMissing
      ∧ Flux.outcome .perBeam md output = .spatialMissing
      ∧ Flux.outcome .temp md output = .spatialMissing := by
  simp [Flux.outcome, Flux.metaCheck_eq, Flux.need, h]

end P13
